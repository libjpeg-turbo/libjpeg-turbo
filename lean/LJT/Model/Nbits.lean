import LJT.Gen.Nbits
import LJT.Gen.NbitsSimd
/-! `jpeg_nbits_table` / `JPEG_NBITS` (src/jpeg_nbits.h, jpeg_nbits.c; SIMD copy in
simd/x86_64/jchuff-sse2.asm).  The table is regenerated into `Gen.nbitsPacked`
(5 bits per entry) on every run. -/
namespace LJT

/-- entry `i` of the C table `jpeg_nbits_table[i]` (scalar build) -/
def nbitsTbl (i : Nat) : Nat := (Gen.nbitsPacked >>> (5 * i)) &&& 31
/-- entry `i` of the table the SIMD build links (from the SSE2 Huffman encoder) -/
def nbitsTblSimd (i : Nat) : Nat := (Gen.Simd.nbitsPacked >>> (5 * i)) &&& 31

/-- specification: floor(log2 x) + 1, and 0 for 0 -/
def nbitsSpec (x : Nat) : Nat := if x = 0 then 0 else Nat.log2 x + 1

/-- the `32 - clz(x)` form used when USE_CLZ_INTRINSIC is defined: the number of
binary digits, computed by repeated halving (structural on fuel). -/
def nbitsClz : Nat → Nat → Nat
  | 0, _ => 0
  | fuel+1, x => if x = 0 then 0 else nbitsClz fuel (x / 2) + 1

end LJT
