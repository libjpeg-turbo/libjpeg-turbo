import LJT.Model.Threads
/-! # C15 - independent instances may be used concurrently from different threads

The logical content as a theorem: when each operation touches only the instance it is applied
to, every interleaving gives every instance exactly the results, and leaves it in exactly the
state, that it gets when its operations run alone.  That the real library has no other shared
mutable state - no conflicting accesses between threads - is what ThreadSanitizer and the
thread-vs-alone differential of the harness observe. -/
namespace LJT.Props.C15
open LJT.Threads

variable {σ ρ α : Type}

/-- **Non-interference**: for every schedule, instance `i` ends in the state and sees the
results of running its own operations alone -/
theorem interleaving_equals_alone (f : Op σ ρ α) : ∀ (sched : List (Nat × α)) (g : Nat → σ) (i : Nat),
    ((runSys f g sched).1 i, proj i (runSys f g sched).2) = runAlone f (g i) (proj i sched) := by
  intro sched
  induction sched with
  | nil => intro g i; simp [runSys, proj, runAlone]
  | cons p t ih =>
    intro g i
    obtain ⟨j, a⟩ := p
    simp only [runSys, stepSys]
    have := ih (fun k => if k = j then (f a (g j)).1 else g k) i
    by_cases hji : j = i
    · subst hji
      simp only [proj, List.filter_cons, decide_true, if_true, List.map_cons, runAlone] at this ⊢
      rw [← this]
    · simp only [proj, List.filter_cons, hji, Ne.symm hji, decide_false, Bool.false_eq_true, if_false] at this ⊢
      exact this

/-- two schedules with the same per-instance operation sequences are indistinguishable to
every instance (order-independence across threads) -/
theorem schedule_irrelevant (f : Op σ ρ α) (s1 s2 : List (Nat × α)) (g : Nat → σ) (i : Nat)
    (h : proj i s1 = proj i s2) :
    ((runSys f g s1).1 i, proj i (runSys f g s1).2) = ((runSys f g s2).1 i, proj i (runSys f g s2).2) := by
  rw [interleaving_equals_alone f s1 g i, interleaving_equals_alone f s2 g i, h]

/-- an error message (part of the result of the failing operation) therefore belongs to the
instance's own most recent failure: the last result instance `i` sees in any schedule is the
last result of running alone -/
theorem last_result_is_own (f : Op σ ρ α) (sched : List (Nat × α)) (g : Nat → σ) (i : Nat) :
    (proj i (runSys f g sched).2).getLast? = (runAlone f (g i) (proj i sched)).2.getLast? := by
  have := interleaving_equals_alone f sched g i
  rw [← this]

/-- non-vacuity: a counter per instance, two instances interleaved -/
example : let f : Op Nat Nat Nat := fun a s => (s + a, s + a)
    proj 1 (runSys f (fun _ => 0) [(1, 5), (2, 7), (1, 1), (2, 1)]).2 = [5, 6] := by decide

end LJT.Props.C15
