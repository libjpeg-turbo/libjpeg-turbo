import LJT.Props.C07
import LJT.Props.C19  -- cited: its nbits theorems (SIMD table = scalar table = bit length) are the other proved part of C05
/-! # C05 - SIMD and scalar code paths give bit-identical results

Bit-identity is a statement about two implementations; where one model serves both, it is a
theorem.  The remaining kernels are compared output against output by the harness. -/
namespace LJT.Props.C05
open LJT.DCT

/-- **The quantiser does not depend on the word size**: the SIMD build keeps the divisor table
in 16-bit words (`DCTELEM` = short), the scalar build in 32-bit words; for every divisor and
every coefficient both return the same value. -/
theorem quantizer_word_size_independent (d : Nat) (w : Int) (hd : 0 < d) (hw : w.natAbs < 32768) :
    quantize8 16 d w = quantize8 32 d w := by
  rw [LJT.Props.C07.quant_is_round_nearest 16 d w (by omega) hd hw,
      LJT.Props.C07.quant_is_round_nearest 32 d w (by omega) hd hw]

/-- the same through the component divisor `8 q` of the accurate DCT -/
theorem quantize_coef_word_size_independent (q : Nat) (w : Int) (hq : 1 ≤ q) (hw : w.natAbs < 32768) :
    quantizeCoef 8 16 q w = quantizeCoef 8 32 q w := by
  simp only [quantizeCoef, show (8 : Nat) ≤ 8 from Nat.le_refl _, if_true]
  exact quantizer_word_size_independent (q * 8) w (by omega) hw

/-- non-vacuity -/
example : quantize8 16 24 (-100) = -4 ∧ quantize8 32 24 (-100) = -4 := by decide

end LJT.Props.C05
