import LJT.Proofs.Dest
import LJT.Proofs.Robust
/-!
# C13 - JPEG destination buffer contract: never overrun, sized results, worst-case size

Full statement: compression/transformation never write outside the destination buffer;
with reallocation disabled they succeed with `size ≤ capacity` or fail with a
buffer-too-small error; with reallocation enabled the returned pointer and size describe
exactly the complete JPEG whatever the initial capacity (null, one byte, exactly full,
reused); a buffer of the worst-case size (+ ICC) always suffices.

Proved here for the destination-manager state machine (`Model.Dest`), for every client
write sequence that follows the libjpeg output protocol.  The worst-case-size clause is
*not* a theorem: it is false on the unchanged tree (DESIGN.md I.7, D3; listed in
known_findings.json) and is decided by the oracle run on the real compressor.
-/
namespace LJT.C13
open LJT.Dest

/-- a client operation: byte-wise output or a direct block store -/
inductive Op | bytes (bs : List Nat) | block (bs : List Nat)

def step (s : State) : Op → Except Err State
  | .bytes bs => putBytes s bs
  | .block bs => putBlock s bs

def Op.payload : Op → List Nat
  | .bytes bs => bs
  | .block bs => bs

def run (s : State) (ops : List Op) : Except Err State := ops.foldlM step s

/-- **Never overruns / exact contents**: along every successful operation sequence the
manager invariant "stored bytes < believed capacity" holds, the buffer content is exactly
the concatenation of everything written, the reallocation flag is unchanged and the
capacity never shrinks.  (Every store lands at index `data.length < cap`.) -/
theorem dest_never_overruns_and_keeps_content (ops : List Op) :
    ∀ (s s' : State), Good s → run s ops = .ok s' →
      Good s' ∧ s'.data = s.data ++ (ops.map Op.payload).flatten ∧ s'.alloc = s.alloc ∧ s.cap ≤ s'.cap := by
  intro s s' hi h
  have W := Wrote.foldlM step Op.payload
    (fun s op s1 => op.casesOn (putBytes_wrote s s1) (putBlock_wrote s s1)) ops s s' h
  refine ⟨W.good hi, ?_, W.alloc, W.cap⟩
  unfold State.data
  rw [W.rdata, List.reverse_append, List.reverse_reverse]

/-- **Reported size and contents**: `term` reports exactly the bytes written. -/
theorem dest_reports_exact_size (s s' : State) (ops : List Op) (hi : Good s) (h0 : s.rdata = [])
    (h : run s ops = .ok s') :
    (term s').1 = ((ops.map Op.payload).flatten).length ∧ (term s').2.1 = (ops.map Op.payload).flatten := by
  obtain ⟨g, d, _, _⟩ := dest_never_overruns_and_keeps_content ops s s' hi h
  rw [show s.data = [] from congrArg List.reverse h0, List.nil_append] at d
  have hl : s'.rdata.length = s'.data.length := List.length_reverse.symm
  simp only [term]
  refine ⟨?_, d⟩
  rw [← d, ← hl]; unfold Good at g; omega

/-- **Reallocation disabled**: a successful run reports a size strictly below the supplied
capacity (so certainly `≤`), and the capacity never changes. -/
theorem noalloc_size_le_capacity (s s' : State) (ops : List Op) (hi : Good s) (ha : s.alloc = false)
    (h : run s ops = .ok s') : (term s').1 < s.cap ∧ s'.cap = s.cap ∧ s'.bufId = s.bufId := by
  have W := Wrote.foldlM step Op.payload
    (fun s op s1 => op.casesOn (putBytes_wrote s s1) (putBlock_wrote s s1)) ops s s' h
  obtain ⟨c, b⟩ := W.fixed ha
  have i := W.good hi
  refine ⟨?_, c, b⟩
  unfold Good at i hi; simp only [term]; omega

/-- **Reallocation disabled, byte-wise output: error exactly on overflow.** -/
theorem noalloc_error_iff_overflow (s : State) (bs : List Nat) (hi : Good s) (ha : s.alloc = false) :
    (∃ s', putBytes s bs = .ok s') ↔ bs.length < s.free := by
  refine ⟨fun ⟨s', h⟩ => ?_, fun h => ⟨_, putBytes_store s bs h⟩⟩
  -- the capacity is still the same and a byte is still free
  have W := putBytes_wrote s s' bs h
  have g := W.good hi
  have c := (W.fixed ha).1
  have l := congrArg List.length W.rdata
  rw [List.length_append, List.length_reverse] at l
  unfold Good at hi g
  omega

/-- **Reallocation enabled: output never fails**, whatever the initial capacity. -/
theorem alloc_never_fails (s : State) (bs : List Nat) (hi : Good s) (ha : s.alloc = true) :
    ∃ s', putBytes s bs = .ok s' := by
  clear hi
  induction bs generalizing s with
  | nil => exact ⟨s, rfl⟩
  | cons b bs ih =>
    obtain ⟨s1, h1⟩ := putByte_alloc s b ha
    obtain ⟨s2, h2⟩ := ih s1 ((putByte_wrote s b s1 h1).alloc.trans ha)
    exact ⟨s2, by simp only [putBytes, List.foldlM_cons, h1]; exact h2⟩

/-- **Initial capacities**: whatever the caller passes (NULL, size 0, one byte, any
size, the previous buffer), `start` either fails with the buffer-size error (only when
reallocation is disabled and nothing usable was supplied) or establishes the invariant. -/
theorem start_establishes_invariant (kind : Kind) (alloc : Bool) (ob : OutBuf) (prev : Option State)
    (hprev : ∀ p, prev = some p → 0 < p.cap) (s : State) (h : start kind alloc ob prev = .ok s) :
    Good s ∧ s.rdata = [] := by
  obtain ⟨h1, h3, hc, _⟩ := start_spec kind alloc ob prev s h
  exact ⟨⟨h3 ▸ hc hprev, by rw [h1, h3]; rfl⟩, h1⟩

/-- **The size handed back with a reused buffer is ignored, whatever it is** (also 0: the repair of D41): the
TurboJPEG manager with reallocation enabled keeps the buffer and the capacity it remembers. -/
theorem reuse_ignores_declared_size (p : State) (d : Nat) :
    start .tj true (.reuse d) (some p) =
      .ok ⟨.tj, true, p.bufId, p.cap, p.cap, [], p.nalloc, (if p.lib == some p.bufId then p.lib else none), []⟩ := by
  unfold start
  simp

/-- **Reuse keeps the true capacity** (TurboJPEG manager, reallocation enabled): handing
back the buffer of the previous call, whose `*outsize` now holds the previous JPEG size,
does not shrink the capacity to that size. -/
theorem reuse_keeps_capacity (p : State) (d : Nat) (hd : d ≠ 0) :
    start .tj true (.reuse d) (some p) =
      .ok ⟨.tj, true, p.bufId, p.cap, p.cap, [], p.nalloc, (if p.lib == some p.bufId then p.lib else none), []⟩ :=
  reuse_ignores_declared_size p d

/-- **Never frees a buffer the caller owns**: during one image, every buffer the manager
passes to `free()` was allocated by the manager during this same image, or is the buffer
the caller handed back for reuse.  In particular a buffer returned by an earlier call and
kept by the caller (id ≤ allocations before this image, not handed back) is never freed.
(This failed before the repair of D11: the TurboJPEG manager kept `newbuffer` across
images.) -/
theorem never_frees_callers_buffer (kind : Kind) (alloc : Bool) (ob : OutBuf) (prev : Option State)
    (s s' : State) (ops : List Op) (hs : start kind alloc ob prev = .ok s) (h : run s ops = .ok s') :
    ∀ id, id ∈ s'.frees → allocBefore prev < id ∨ handedBack ob prev = some id := by
  have W := Wrote.foldlM step Op.payload
    (fun s op s1 => op.casesOn (putBytes_wrote s s1) (putBlock_wrote s s1)) ops s s' h
  exact (W.owns _ _ (start_spec kind alloc ob prev s hs).2.2.2).2.2

-- non-vacuity: one-byte initial buffer, reallocation on, 5000 bytes written byte-wise plus
-- a direct block: the run succeeds and the invariant holds at the start.
def demoOk : Bool :=
  match start .tj true (.own 1) none with
  | .ok s => decide (0 < s.free ∧ s.free + s.rdata.length = s.cap) &&
    (match run s [.bytes (List.replicate 5000 7), .block (List.replicate 300 9)] with
     | .ok s' => (term s').1 == 5300 && s'.cap == 8192
     | .error _ => false)
  | .error _ => false
example : demoOk = true := by decide +kernel

/-- **The per-block staging buffer of the Huffman encoder is large enough**: whatever the
tables and the (range-checked) coefficients, one encoded block plus the bits pending from the
previous block never exceed `BUFSIZE` bytes of src/jchuff.c (regenerated from the working
tree) even with every byte stuffed - so neither the on-stack buffer nor the destination buffer
(which is used directly only when it has at least `BUFSIZE` bytes free) is overrun. -/
theorem block_staging_buffer_suffices (tdc tac : Huff.Tbl) (cdc cac : Huff.CDerived)
    (h1 : Huff.mkCDerived true false tdc = some cdc) (h3 : Huff.mkCDerived false false tac = some cac)
    (diff : Int) (ac : List Int) (hlen : ac.length = 63) (hd : diff.natAbs < 32768)
    (hac : ∀ v ∈ ac, v.natAbs < 32768) (bits : List Bool) (he : SeqHuff.encodeBlock cdc cac diff ac = some bits)
    (pending : Nat) (hp : pending ≤ 63) :
    2 * ((pending + bits.length) / 8) ≤ Gen.Src.jchuff_BUFSIZE :=
  SeqHuff.block_fits_buffer tdc tac cdc cac h1 h3 diff ac hlen hd hac bits he pending hp

end LJT.C13
