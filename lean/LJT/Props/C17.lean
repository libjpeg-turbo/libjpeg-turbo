import LJT.Proofs.Robust
import LJT.Proofs.ScanScript
import LJT.Model.ProgHuff
/-! # C17 - the compressor never crashes or emits bad output for any parameter combination

The decision logic that can be stated on the model: the size bound that keeps
`encode_one_block` inside its local buffer; the agreement of the two Huffman table
builders on what they accept; and scan scripts - what `validate_script` accepts as
progressive its own decoder reads without complaint, what it accepts otherwise sends every
component once, and the library's own progression script is accepted.  Everything else of
this property is explored on the real library (harness `cparam` / `xcoef`). -/
namespace LJT.Props.C17
open LJT.Huff LJT.SeqHuff

/-- **No block overruns the encoder's local buffer**: for every valid DC/AC table pair, every
DC difference and every 63 AC coefficients below 2^15 in magnitude (all that 8- and 12-bit
data and direct coefficient input can present once the range checks passed), the bytes the
block can produce - counting up to 63 bits already pending in the bit buffer and assuming the
worst case that every byte is 0xFF and gets a stuffed zero - fit `BUFSIZE` of src/jchuff.c as
generated from the working tree. -/
theorem block_fits_local_buffer (tdc tac : Tbl) (cdc cac : CDerived)
    (h1 : mkCDerived true false tdc = some cdc) (h3 : mkCDerived false false tac = some cac)
    (diff : Int) (ac : List Int) (hlen : ac.length = 63) (hd : diff.natAbs < 32768)
    (hac : ∀ v ∈ ac, v.natAbs < 32768) (bits : List Bool) (he : encodeBlock cdc cac diff ac = some bits)
    (pending : Nat) (hp : pending ≤ 63) :
    2 * ((pending + bits.length) / 8) ≤ Gen.Src.jchuff_BUFSIZE :=
  block_fits_buffer tdc tac cdc cac h1 h3 diff ac hlen hd hac bits he pending hp

/-- every code word of an accepted table has at most 16 bits -/
theorem code_length_le_16 (isDC lossless : Bool) (t : Tbl) (c : CDerived) (hc : mkCDerived isDC lossless t = some c)
    (s : Nat) (bs : List Bool) (he : encode c s = some bs) : bs.length ≤ 16 :=
  encode_length_le isDC lossless t c hc s bs he

/-- **A table the compressor accepts is a table the decompressor accepts** (so a stream is
never written with a DHT its own reader refuses) -/
theorem compressor_tables_are_decodable (isDC lossless : Bool) (t : Tbl) (c : CDerived)
    (hc : mkCDerived isDC lossless t = some c) : (mkDDerived isDC lossless t).isSome = true :=
  Option.isSome_iff_exists.2 (mkDDerived_of_mkCDerived hc)

/-- non-vacuity: the bound is tight enough to matter - 63 pending bits and 1984 block bits
need 510 of the 512 bytes -/
example : 2 * ((63 + 31 * 64) / 8) = 510 ∧ Gen.Src.jchuff_BUFSIZE = 512 := by decide


open LJT.ScanScript in
/-- **Scan scripts: what the compressor accepts, its own decoder reads without complaint.**  `validate_script`
of jcmaster.c and the progression checks of `start_pass_phuff_decoder` of jdphuff.c are modelled line by line
(Model/ScanScript.lean) and tied to the real functions by the `vscript` operation (valid, mutated and hostile
scripts: error code, offending scan number, selected mode, and the warnings of the real decoder on the file
written).  For EVERY script - any number of scans, any `comps_in_scan` and component indexes, any `Ss Se Ah
Al`, any component count, 8- or 12-bit - that `validate_script` accepts as progressive, the decoder raises
neither `JERR_BAD_PROGRESSION` nor a single `JWRN_BOGUS_PROGRESSION` when it meets the scans in that order. -/
theorem accepted_scan_script_is_decodable (prec nc : Nat) (scans : List ScanScript.Scan)
    (h4 : ∀ s ∈ scans, s.idx.length = 4)
    (h : validateScript prec nc scans = .ok .progressive) : decRun scans BitPos.init 0 = some 0 := by
  obtain ⟨st, hv, _⟩ := validateScript_ok prec nc scans .progressive h
  exact accepted_scans prec nc scans 1 ⟨BitPos.init, []⟩ st 0 h4 hv

-- non-vacuity: the script of jpeg_simple_progression for one component is accepted as progressive
open LJT.ScanScript in
example : (match validateScript 8 1 [⟨1, [0, 0, 0, 0], 0, 0, 0, 1⟩, ⟨1, [0, 0, 0, 0], 1, 5, 0, 2⟩, ⟨1, [0, 0, 0, 0], 6, 63, 0, 2⟩,
    ⟨1, [0, 0, 0, 0], 1, 63, 2, 1⟩, ⟨1, [0, 0, 0, 0], 0, 0, 1, 0⟩, ⟨1, [0, 0, 0, 0], 1, 63, 1, 0⟩] with
    | .ok .progressive => true | _ => false) = true := by
  decide +kernel


open LJT.ScanScript in
/-- **Accepted sequential and lossless scan scripts are complete and free of repetition**: if `validate_script`
accepts a script in a mode other than progressive, the components its scans name, in order, are a rearrangement of
`0 .. num_components-1` - every component of the frame is sent, none twice. -/
theorem accepted_nonprogressive_script_sends_every_component_once (prec nc : Nat) (scans : List ScanScript.Scan) (m : Mode)
    (hm : m ≠ .progressive) (h : validateScript prec nc scans = .ok m) :
    (scans.flatMap ScanScript.Scan.comps).Perm (List.range nc) := by
  obtain ⟨st, hv, hall⟩ := validateScript_ok prec nc scans m h
  obtain ⟨r1, r2, r3⟩ := validateScans_sent prec nc m hm scans 1 ⟨BitPos.init, []⟩ st hv (by simp) (by simp)
  rw [List.nil_append] at r3
  rw [← r3]
  exact (List.perm_ext_iff_of_nodup r1 List.nodup_range).2 fun c =>
    ⟨fun hc => List.mem_range.2 (r2 c hc), fun hc => List.contains_iff_mem.1 (List.all_eq_true.1 (hall hm) c hc)⟩

/-- a script in the notation of Model/ProgHuff.lean as `jpeg_scan_info` records -/
def toScans (l : List (List Nat × Nat × Nat × Nat × Nat)) : List ScanScript.Scan :=
  l.map fun (cis, ss, se, ah, al) => ⟨Int.ofNat cis.length, ((cis ++ [0, 0, 0, 0]).take 4).map (fun (c : Nat) => Int.ofNat c),
    Int.ofNat ss, Int.ofNat se, Int.ofNat ah, Int.ofNat al⟩

def acceptedProg (prec nc : Nat) (s : List ScanScript.Scan) : Bool :=
  match ScanScript.validateScript prec nc s with | .ok .progressive => true | _ => false

/-- **The library's own progression script passes its own validator**: `jpeg_simple_progression` (as modelled in
Model/ProgHuff.lean and tied byte for byte by `progfile`) for 1 to 4 components, at 8 and 12 bits - and hence, by
`accepted_scan_script_is_decodable`, decodes without a progression error or warning. -/
theorem simple_progression_is_accepted : ∀ nc ∈ [1, 2, 3, 4],
    acceptedProg 8 nc (toScans (LJT.ProgHuff.simpleProgression nc)) = true ∧
    acceptedProg 12 nc (toScans (LJT.ProgHuff.simpleProgression nc)) = true := by decide +kernel

end LJT.Props.C17
