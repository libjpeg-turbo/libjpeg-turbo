import LJT.Proofs.Mem
/-! # C14 - allocation failures are survived, nothing leaks, configured limits hold

The memory manager's bookkeeping as theorems (Model/Mem.lean).  That the real library follows
this bookkeeping is tied by replaying its recorded allocation trace through the model
(`memreplay`); survival of failed allocations, leak-freedom and the limits themselves are
checked on the real code with fault injection at every allocation index (harness `afail`,
`limit`). -/
namespace LJT.Props.C14
open LJT.Mem

/-- **The usage counter is exact after every operation**: whatever sequence of allocations
(successful or failed), pool releases and single releases has happened, the counter that
enforces `max_memory_to_use` equals the bytes really outstanding.  `Inv` holds at the start
(`counter_exact_init`) and each of the three operations keeps it: this theorem and the next two. -/
theorem counter_exact_alloc (s : State) (id pool size : Nat) (ok : Bool) (h : Inv s) : Inv (alloc s id pool size ok) := by
  unfold alloc Mem.Inv at *
  cases ok
  · simpa using h
  · simp only [if_true, sumSizes_cons]
    omega

/-- ... releasing a pool ... -/
theorem counter_exact_free_pool (s : State) (pool : Nat) (h : Inv s) : Inv (freePool s pool) := by
  unfold freePool Mem.Inv at *
  have := sumSizes_split s.live (·.pool) pool
  simp only
  omega

/-- ... releasing the one live block with identifier `id` ... -/
theorem counter_exact_free_block (s : State) (id : Nat) (b : Blk) (h : Inv s)
    (hu : s.live.filter (fun x => decide (x.id = id)) = [b]) : Inv (free1 s id) := by
  have hf : s.live.find? (fun x => decide (x.id = id)) = some b := by
    rw [← List.head?_filter, hu]; rfl
  have := sumSizes_split s.live (·.id) id
  rw [hu, sumSizes_cons] at this
  unfold free1 Mem.Inv at *
  rw [hf]
  show s.total - b.size = sumSizes (s.live.filter (fun x => decide (x.id ≠ id)))
  have : sumSizes [] = 0 := rfl
  omega

/-- ... and the initial state -/
theorem counter_exact_init : Mem.Inv init := by simp [Mem.Inv, init, sumSizes]

/-- **A failed allocation changes nothing** (nothing to leak, nothing half-registered) -/
theorem failed_allocation_is_noop (s : State) (id pool size : Nat) : alloc s id pool size false = s := by
  simp [alloc]

/-- **After destruction nothing is outstanding**, whatever happened before -/
theorem destroy_leaves_nothing (s : State) (hp : ∀ b ∈ s.live, b.pool = 0 ∨ b.pool = 1) : (destroy s).live = [] := by
  apply List.eq_nil_iff_forall_not_mem.2
  intro b hb
  obtain ⟨hb1, h0⟩ := mem_freePool.1 hb
  obtain ⟨hb0, h1⟩ := mem_freePool.1 hb1
  rcases hp b hb0 with h | h <;> contradiction

/-- **Releasing the image pool forgets the image**: what remains counted is exactly the
permanent pool, independent of how much was allocated for images before (this is what makes
the memory limit behave the same for the n-th image as for the first) -/
theorem after_image_release_only_permanent (s : State) (h : Inv s) :
    (freePool s 1).total = sumSizes (s.live.filter (fun b => decide (b.pool ≠ 1))) :=
  counter_exact_free_pool s 1 h

/-- **The limit is honoured by construction of the grant**: with a limit, never more than
`limit - already` is granted to virtual arrays -/
theorem grant_within_limit (limit already maxNeeded : Nat) (hl : 0 < limit) :
    available limit already maxNeeded + already ≤ max limit already := by
  unfold available
  rw [if_neg (by omega)]
  omega

/-- non-vacuity -/
example : (freePool (alloc (alloc init 0 0 168 true) 1 1 16000 true) 1).total = 168 ∧
    sumSizes (freePool (alloc (alloc init 0 0 168 true) 1 1 16000 true) 1).live = 168 := by
  refine ⟨by decide, by decide⟩

end LJT.Props.C14
