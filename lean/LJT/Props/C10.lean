import LJT.Proofs.Color
/-!
# C10 - Results are independent of pixel layout, row order and pitch

Full statement: compressing the same picture presented in any RGB-family layout, with any
values in the unused byte, any pitch >= row size, top-down or bottom-up, yields
byte-identical JPEGs; decompressing to any layout yields the same R, G, B in the
documented positions with alpha = maximum sample value; decompressing a colour JPEG to
grayscale yields exactly its luminance component.

Proved here: for every *valid* layout (and all layouts of the regenerated offset tables
are valid, agree between the two APIs, and place alpha where documented), the colour
conversion result is a function of the colour samples only.  Row order and pitch are
pointer arithmetic of the wrappers; they are decided by the correspondence / oracle run
(`pfeq` ops) and listed as partial.
-/
namespace LJT.C10
open LJT.Color LJT.Gen

/-- **The offset tables are consistent** (regenerated from turbojpeg.h and jmorecfg.h on
every run): every RGB-family pixel format has a valid layout, and TurboJPEG's offsets are
those of the libjpeg colourspace it is mapped to. -/
theorem offset_tables_valid :
    (∀ pf, pf < TJ_NUMPF → pf ≠ TJPF_GRAY → pf ≠ TJPF_CMYK →
      ∃ L, layoutOfPF pf = some L ∧ L.Valid) ∧
    (∀ cs, JCS_EXT_RGB ≤ cs → cs ≤ JCS_EXT_ARGB → ∃ L, layoutOfCS cs = some L ∧ L.Valid) :=
  ⟨fun pf h1 h2 h3 => valid_of_any_validB _ (layoutOfPF_validB pf h1 h2 h3),
   fun cs h1 h2 => valid_of_any_validB _ (layoutOfCS_validB cs h2 h1)⟩

/-- the libjpeg colourspace each TurboJPEG pixel format is mapped to (`pf2cs[]`, regenerated
from the source text as identifier names) -/
def pf2cs (pf : Nat) : Nat :=
  match Gen.Src.pf2csNames.getD pf "" with
  | "JCS_EXT_RGB" => JCS_EXT_RGB | "JCS_EXT_BGR" => JCS_EXT_BGR | "JCS_EXT_RGBX" => JCS_EXT_RGBX
  | "JCS_EXT_BGRX" => JCS_EXT_BGRX | "JCS_EXT_XBGR" => JCS_EXT_XBGR | "JCS_EXT_XRGB" => JCS_EXT_XRGB
  | "JCS_EXT_RGBA" => JCS_EXT_RGBA | "JCS_EXT_BGRA" => JCS_EXT_BGRA | "JCS_EXT_ABGR" => JCS_EXT_ABGR
  | "JCS_EXT_ARGB" => JCS_EXT_ARGB | "JCS_GRAYSCALE" => JCS_GRAYSCALE | "JCS_CMYK" => JCS_CMYK
  | _ => 0

/-- **Both APIs agree on where the samples are**: the layout TurboJPEG documents for a
pixel format is the layout of the libjpeg colourspace it passes down. -/
theorem tj_layout_eq_libjpeg_layout (pf : Nat) (h1 : pf < TJ_NUMPF) (h2 : pf ≠ TJPF_GRAY) (h3 : pf ≠ TJPF_CMYK) :
    layoutOfPF pf = layoutOfCS (pf2cs pf) := by
  revert pf
  decide +kernel

/-- **Compression is independent of the layout and of the unused byte**: two packed rows
that present the same picture in any two valid layouts, with arbitrary values in the other
positions, convert to the same YCbCr samples (hence the same JPEG). -/
theorem layout_independence_compress (L1 L2 : Layout) (h1 : L1.Valid) (h2 : L2.Valid) (center : Int)
    (px : List (Int × Int × Int)) (f1 f2 : List Int) (hf1 : f1.length = px.length) (hf2 : f2.length = px.length) :
    compressRow L1 center px.length (packRow L1 (px.zip f1)) =
      compressRow L2 center px.length (packRow L2 (px.zip f2)) := by
  rw [compressRow, compressRow, extract_pack_zip L1 h1 px f1 hf1, extract_pack_zip L2 h2 px f2 hf2]

/-- **Decompression puts the same colour in every layout, alpha = maximum**: reading the
emitted row back with the same layout gives `ycc2rgb` of the decoded samples, and every
fourth sample (alpha or unused byte) equals the maximum sample value. -/
theorem layout_independence_decompress (L : Layout) (h : L.Valid) (center maxJ : Int)
    (ycc : List (Int × Int × Int)) :
    extractRow L ycc.length (emitRow L center maxJ ycc) = ycc.map (ycc2rgb center maxJ) ∧
    alphaRow L ycc.length (emitRow L center maxJ ycc) = ycc.map (fun _ => L.a.map (fun _ => maxJ)) := by
  unfold emitRow
  have e := unpack_pack L h (ycc.map (fun p => (ycc2rgb center maxJ p, maxJ)))
  simp only [List.length_map, List.map_map] at e
  exact e

/-- **Grayscale from colour is the luminance**: the luminance the compressor computes for a
pixel is the first component of its YCbCr conversion (so a gray decode of a colour JPEG, which
copies component 0, is its Y plane). -/
theorem gray_is_luma (center : Int) (p : Int × Int × Int) : rgb2gray p = (rgb2ycc center p).1 := rfl

-- non-vacuity: RGBX and ABGR views of the same two pixels with different filler bytes
example : compressRow ⟨0, 1, 2, some 3, 4⟩ 128 2 (packRow ⟨0, 1, 2, some 3, 4⟩ [((255, 0, 7), 99), ((1, 2, 3), 5)]) =
    compressRow ⟨3, 2, 1, some 0, 4⟩ 128 2 (packRow ⟨3, 2, 1, some 0, 4⟩ [((255, 0, 7), 0), ((1, 2, 3), 200)]) := by decide

end LJT.C10
