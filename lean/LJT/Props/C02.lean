import LJT.Proofs.Lossless
import LJT.Proofs.Bits
import LJT.Proofs.LosslessFull
/-!
# C02 - Lossless mode reproduces every sample exactly

Full statement: for every image with 2..16 bits per sample and 1..4 components, every
PSV 1..7, every restart setting and scan layout the compressor accepts, compressing in
lossless mode with Pt = 0 and decompressing returns exactly the original samples; with
Pt > 0 each sample comes back with its Pt low bits cleared; through both APIs and for
every packed-pixel layout, row order and pitch.

Proved over `Model.Lossless` (whose compressor side is byte-identical to the real encoder on every generated case,
and whose tables come from the C19-verified builders).  `lossless_roundtrip` is the whole scan - any number of restart
intervals, MCUs interleaved over 1..n components, regrouped by the decoder into component rows - for every image,
size, precision, predictor, restart interval and every set of tables under which the encoder's model succeeds; the
theorems before it are its layers: differencing with the restart bookkeeping of both sides, category and extra bits
including the 32768 case, one Huffman-coded segment, the scan with its RSTn framing.  Both ends of the theorem are run
against the code: `llEncode` must emit the bytes libjpeg-turbo emits, and `llDecode`, run on those bytes, must return
the samples libjpeg-turbo's decompressor returns (`llenc` ops).
Not in the theorem: scan layouts other than one interleaved scan (llscan ops check those on the
real code), the marker segments around the scan (C16), and layout / row order / pitch (C10).
-/
namespace LJT.C02
open LJT.LL LJT.Huff LJT.Bits

/-- what the decoder returns for an input sample: the Pt low bits cleared -/
def cleared (Pt : Nat) (s : Nat) : Nat := (s >>> Pt) <<< Pt

theorem shift_roundtrip (s Pt : Nat) (hs : s < 65536) :
    (((s >>> Pt : Nat) : Int).toNat <<< Pt) % 65536 = cleared Pt s := by
  rw [Int.toNat_natCast]
  refine Nat.mod_eq_of_lt (Nat.lt_of_le_of_lt ?_ hs)
  rw [Nat.shiftRight_eq_div_pow, Nat.shiftLeft_eq]
  exact Nat.div_mul_le_self s (2 ^ Pt)

/-- **component_roundtrip**: for every precision 2..16, point transform, predictor,
restart interval and image size: undifferencing (with the *decompressor's* restart
bookkeeping) any differences that are congruent modulo 2^16 to the ones the compressor
produced (with *its* bookkeeping), then scaling up, returns every sample with its Pt low
bits cleared - i.e. exactly the input when Pt = 0. -/
theorem component_roundtrip (p : Params) (rows : List (List Nat)) (w : Nat)
    (hP : p.P ≤ 16) (hw : ∀ r ∈ rows, r.length = w) (hs : ∀ r ∈ rows, ∀ s ∈ r, s < 2 ^ p.P)
    (dss : List (List Int))
    (hd : All2 (All2 Cong16) dss
      (diffRows p.psv (initPred p) (encFlags p.R rows.length (true, p.R)) [] (downscale p.Pt rows))) :
    upscale p.Pt (undiffRows p.psv (initPred p) (decFlags p.R rows.length (true, p.R)) [] dss) =
      rows.map (fun r => r.map (cleared p.Pt)) := by
  have h16 : ∀ r ∈ rows, ∀ s ∈ r, s < 65536 := fun r hr s hs' =>
    Nat.lt_of_lt_of_le (hs r hr s hs') (Nat.pow_le_pow_right (by decide) hP)
  rw [← restart_sync, undiffRows_diffRows (downscale_inRange p.Pt rows h16) (downscale_width p.Pt rows w hw)
    (Or.inl (encFlags_headD p.R _ (true, p.R))) (by rw [encFlags_length, downscale_length]) hd]
  simp only [upscale, downscale, List.map_map, Function.comp_def]
  exact List.map_congr_left fun r hr => List.map_congr_left fun s hs' => shift_roundtrip s p.Pt (h16 r hr s hs')

/-- **restart_sync** (re-exported): same reset rows on both sides, for every interval. -/
theorem restart_sync (R n : Nat) : encFlags R n (true, R) = decFlags R n (true, R) :=
  LJT.LL.restart_sync R n

/-- **difference_coding_roundtrip**: for every integer difference the decoder's value
is congruent to it modulo 2^16, the category is at most 16, and category 16 carries no
extra bits. -/
theorem difference_coding_roundtrip (d : Int) :
    Cong16 (extend (category d).1 (category d).2.1) d ∧ (category d).1 ≤ 16 ∧
    (category d).2.2 = (if (category d).1 = 16 then 0 else (category d).1) :=
  let h := extend_category d
  ⟨h.1, h.2.1, h.2.2.2⟩

/-- **segment_roundtrip**: the bytes of one restart segment (Huffman codes + extra bits
of every MCU, 1-padding, 0xFF stuffing), read back through the unstuffing bit reader and
the Huffman/extend decoder, give MCUs with congruent differences; what is left unread is
fewer than 8 padding bits. -/
theorem segment_roundtrip (cds : List CDerived) (dds : List DDerived) (tblOf : List Nat) (nc : Nat)
    (htab : TablesOK cds dds tblOf 0 nc) (mcus : List (List Int)) (hlen : ∀ m ∈ mcus, m.length = nc)
    (bits : List Bool) (henc : segBits cds tblOf (mcus.flatMap (mcuItems 0)) = some bits) :
    ∃ mcus' padding, decodeItems dds tblOf nc mcus.length (segmentBits (segmentBytes bits)) =
        some (mcus'.flatMap (mcuItems 0), padding) ∧
      All2 (All2 Cong16) mcus' mcus ∧ padding.length < 8 := by
  rw [segmentBits_segmentBytes]
  exact ⟨mcus.map (List.map recon), _, decodeItems_segBits cds dds tblOf nc htab mcus bits _ hlen henc,
    all2_map_self (fun m => all2_map_self recon_cong m) mcus, by simp [padLen_lt]⟩

/-- **lossless_roundtrip_partial**: the two halves above, joined at the point where they
meet: if the differences the entropy decoder hands to the undifferencer are the ones
`segment_roundtrip` yields (congruent to the compressor's), every component comes back as
`cleared Pt` of the input.  Splitting the scan at RSTn markers and regrouping MCUs into rows are not part of
this theorem; `lossless_roundtrip` covers them. -/
theorem lossless_roundtrip_partial (p : Params) (img : List (List (List Nat))) (w : Nat)
    (hP : p.P ≤ 16) (hw : ∀ rows ∈ img, ∀ r ∈ rows, r.length = w)
    (hs : ∀ rows ∈ img, ∀ r ∈ rows, ∀ s ∈ r, s < 2 ^ p.P)
    (decoded : List (List (List Int)))
    (hd : All2 (All2 (All2 Cong16)) decoded (encodeDiffs p img)) :
    All2 (fun (dss : List (List Int)) (rows : List (List Nat)) =>
        upscale p.Pt (undiffRows p.psv (initPred p) (decFlags p.R rows.length (true, p.R)) [] dss) =
          rows.map (fun r => r.map (cleared p.Pt))) decoded img := by
  unfold encodeDiffs at hd
  induction img generalizing decoded with
  | nil => cases hd; exact All2.nil
  | cons rows img ih =>
    obtain ⟨hw1, hw⟩ := List.forall_mem_cons.1 hw
    obtain ⟨hs1, hs⟩ := List.forall_mem_cons.1 hs
    cases hd with
    | cons h1 h2 => exact All2.cons (component_roundtrip p rows w hP hw1 hs1 _ h1) (ih hw hs _ h2)

/-- **scan_entropy_roundtrip**: the entropy-coded data of a whole lossless scan - any number of restart intervals,
each packed, 1-padded, byte-stuffed, joined by RST0..RST7 (exactly what `llEncode`, the model tied byte for byte to
libjpeg-turbo by `llenc`, emits) - split at the markers and decoded interval by interval yields, for every interval
and every MCU, differences congruent modulo 2^16 to the ones coded.  `component_roundtrip` needs nothing but that
congruence; `lossless_roundtrip` adds the regrouping of MCUs into component rows and joins the two. -/
theorem scan_entropy_roundtrip (cds : List CDerived) (dds : List DDerived) (tblOf : List Nat) (nc : Nat)
    (htab : TablesOK cds dds tblOf 0 nc) (segs : List (List (List Int))) (hne : segs ≠ [])
    (hlen : ∀ seg ∈ segs, ∀ m ∈ seg, m.length = nc) (bitss : List (List Bool))
    (henc : All2 (fun seg bits => segBits cds tblOf (seg.flatMap (mcuItems 0)) = some bits) segs bitss) :
    ∃ segs', decodeSegments dds tblOf nc (segs.map List.length)
        (Bits.splitRST (Bits.joinRST (bitss.map Bits.segmentBytes) 0) []) =
          some (segs'.map (fun seg => seg.flatMap (mcuItems 0))) ∧
      All2 (All2 (All2 Cong16)) segs' segs :=
  LJT.LL.scan_entropy_roundtrip cds dds tblOf nc htab segs hne hlen bitss henc

/-- **lossless_roundtrip**: the whole lossless scan, compressor to decompressor, for every image.  For every precision
2..16, point transform, predictor, restart interval (in MCU rows, 0 = none), number of interleaved components, image
size `w x h >= 1x1`, every image whose samples fit the precision and every set of Huffman tables under which the
compressor's model succeeds in coding it: the bytes `llEncode` emits - differences by `encodeDiffs` with the
*compressor's* restart bookkeeping, interleaved MCU by MCU, cut into restart intervals, Huffman-coded, 1-padded,
byte-stuffed and joined by RST0..RST7 - are turned back by `llDecode` - split at the markers, each interval decoded
MCU by MCU with the *decompressor's* tables, regrouped into component rows, undifferenced with the decompressor's own
restart bookkeeping in 16-bit wrap-around arithmetic and scaled up - into exactly the input with its `Pt` low bits
cleared.  (`llEncode` is tied byte for byte to jcdiffct.c/jclossls.c/jclhuff.c by the `llenc` correspondence; the real
decoder is tied by the round-trip oracle of the same ops.) -/
theorem lossless_roundtrip (p : Params) (img : List (List (List Nat))) (nc h w : Nat)
    (hP : p.P ≤ 16) (n1 : 1 ≤ nc) (h1 : 1 ≤ h) (w1 : 1 ≤ w)
    (hnc : img.length = nc) (hh : ∀ rows ∈ img, rows.length = h)
    (hw : ∀ rows ∈ img, ∀ r ∈ rows, r.length = w)
    (hs : ∀ rows ∈ img, ∀ r ∈ rows, ∀ s ∈ r, s < 2 ^ p.P)
    (cds : List CDerived) (dds : List DDerived) (tblOf : List Nat) (htab : TablesOK cds dds tblOf 0 nc)
    (bitss : List (List Bool))
    (henc : (segmentsOf p.R ((byRow (encodeDiffs p img) h).map interleaveRow)).mapM (segBits cds tblOf) = some bitss) :
    llDecode p tblOf dds nc h w (Bits.joinRST (bitss.map Bits.segmentBytes) 0) =
      some (img.map fun rows => rows.map fun r => r.map (cleared p.Pt)) := by
  obtain ⟨segItems, hdec, hreg⟩ := decoded_diffs p.R h1 n1 (encodeDiffs_shape p hnc hh hw) htab henc
  unfold llDecode
  rw [hdec]
  simp only [Option.some.injEq, hreg, encodeDiffs, List.map_map]
  -- component by component: the regrouped differences are `recon` of the compressor's, hence congruent to them
  refine List.map_congr_left fun rows hr => ?_
  rw [Function.comp_apply, Function.comp_apply, ← hh rows hr]
  exact component_roundtrip p rows w hP (hw rows hr) (hs rows hr) _
    (all2_map_self (fun r => all2_map_self recon_cong r) _)

-- non-vacuity: a 3x2 16-bit component alternating 0 / 65535 with PSV 7, restart every row
example : (diffRows 7 32768 (encFlags 1 2 (true, 1)) [] (downscale 0 [[0, 65535, 0], [65535, 0, 65535]])) =
    [[-32768, 65535, -65535], [32767, -65535, 65535]] := by decide

end LJT.C02
