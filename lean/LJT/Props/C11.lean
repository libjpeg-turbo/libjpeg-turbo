import LJT.Proofs.Extent
import LJT.Props.C20  -- cited: the extents of planar YUV buffers are its theorems (see below)
/-! # C11 - only the documented extent of caller buffers is read or written

The addressing arithmetic of packed-pixel buffers as theorems (for planar YUV buffers see the
C20 theorems `unified_planes_inside_and_disjoint`, `plane_size_formula`); that the real code -
including the SIMD kernels that process several pixels at a time - stays inside these extents
is observed with guard pages and canaries (harness `g11*`). -/
namespace LJT.Props.C11
open LJT.Extent

theorem div_mod_of_row (pitch y k : Nat) (hk : k < pitch) : (y * pitch + k) / pitch = y ∧ (y * pitch + k) % pitch = k :=
  (Nat.div_mod_unique (Nat.zero_lt_of_lt hk)).2 ⟨by rw [Nat.add_comm, Nat.mul_comm], hk⟩

/-- **Every sample of every row lies inside the documented buffer size**, in either row order -/
theorem rows_inside_documented_size (rowBytes pitch h : Nat) (bottomUp : Bool) (y o : Nat)
    (hy : y < h) (hin : inRow rowBytes pitch h bottomUp y o) : o < docSize rowBytes pitch h := by
  unfold inRow at hin
  rw [rowStart_eq] at hin
  have : bufRow h bottomUp y * pitch ≤ (h - 1) * pitch :=
    Nat.mul_le_mul_right _ (Nat.le_sub_one_of_lt (bufRow_lt bottomUp hy))
  unfold docSize
  rw [Nat.mul_comm pitch]; omega

/-- **Row padding belongs to no row**: with `rowBytes ≤ pitch`, an offset is a sample of some
row iff `o / pitch < h ∧ o % pitch < rowBytes`; so bytes with `o % pitch ≥ rowBytes` (the
padding) and bytes beyond the last row are outside every row, in either row order -/
theorem owned_iff (rowBytes pitch h : Nat) (bottomUp : Bool) (hp : rowBytes ≤ pitch) (hpos : 0 < pitch) (o : Nat) :
    (∃ y, y < h ∧ inRow rowBytes pitch h bottomUp y o) ↔ owned rowBytes pitch h o = true := by
  simp only [owned, Bool.and_eq_true, decide_eq_true_eq, inRow_iff rowBytes pitch h bottomUp hp]
  constructor
  · rintro ⟨y, hy, hq, hm⟩
    exact ⟨hq ▸ bufRow_lt bottomUp hy, hm⟩
  · rintro ⟨hd, hm⟩
    exact ⟨bufRow h bottomUp (o / pitch), bufRow_lt bottomUp hd, (bufRow_bufRow bottomUp hd).symm, hm⟩

/-- rows do not overlap -/
theorem rows_disjoint (rowBytes pitch h : Nat) (bottomUp : Bool) (hp : rowBytes ≤ pitch) (y1 y2 o : Nat)
    (h1 : y1 < h) (h2 : y2 < h) (hne : y1 ≠ y2)
    (i1 : inRow rowBytes pitch h bottomUp y1 o) (i2 : inRow rowBytes pitch h bottomUp y2 o) : False := by
  rw [inRow_iff rowBytes pitch h bottomUp hp] at i1 i2
  have e : bufRow h bottomUp y1 = bufRow h bottomUp y2 := i1.1.symm.trans i2.1
  exact hne ((bufRow_bufRow bottomUp h1).symm.trans ((congrArg (bufRow h bottomUp) e).trans (bufRow_bufRow bottomUp h2)))

/-- non-vacuity -/
example : owned 6 8 3 9 = true ∧ owned 6 8 3 14 = false ∧ owned 6 8 3 24 = false ∧ docSize 6 8 3 = 22 := by decide

end LJT.Props.C11
