import LJT.Proofs.Bits
import LJT.Proofs.SeqHuff
import LJT.Model.T81Enc
import LJT.Model.Arith
import LJT.Gen.Tables
import LJT.Props.C03
/-! # C04 - emitted streams conform to T.81; conforming streams decode to spec

Theorems about the independent T.81 layer (Model/T81.lean reader, Model/T81Enc.lean writer,
Model/Bits.lean framing).  A whole-stream inverse theorem is not proved; the parts below are,
and the composition is exercised in both directions against the real codec. -/
namespace LJT.Props.C04
open LJT.Bits LJT.T81 LJT.T81Enc

/-- **Interval framing is inverted exactly**: for every bit string, what the reader extracts
from the bytes of an entropy-coded interval (unstuffing, MSB-first unpacking) is the bit
string followed by fewer than eight 1-bits (B.1.1.5, F.1.2.3) -/
theorem interval_framing_roundtrip (bits : List Bool) :
    intervalBits (segmentBytes bits) = bits ++ List.replicate (padLen bits.length) true ∧ padLen bits.length < 8 := by
  refine ⟨?_, padLen_lt _⟩
  show segmentBits (segmentBytes bits) = _
  rw [segmentBits_segmentBytes]

/-- **No marker can appear inside entropy-coded data**: in stuffed data every 0xFF byte is
followed by 0x00 -/
theorem stuffed_data_has_no_marker : ∀ (bs : List Nat) (i : Nat), (stuff bs)[i]? = some 0xFF → (stuff bs)[i + 1]? = some 0x00 := by
  intro bs
  fun_induction stuff bs with
  | case1 => nofun
  | case2 t ih =>  -- 0xFF, 0x00, then the stuffed tail
    intro i h
    match i with
    | 0 => rfl
    | 1 => cases h
    | j + 2 => exact ih j h
  | case3 b t hb ih =>  -- a byte other than 0xFF
    intro i h
    match i with
    | 0 => exact absurd (Option.some.inj h) hb
    | j + 1 => exact ih j h

/-- **Marker segments carry their exact length** (B.1.1.4): the two bytes after the marker
code are the big-endian count of themselves plus the payload -/
theorem marker_length_exact (o : Opts) (m : Nat) (payload : List Nat) (h : payload.length + 2 < 65536) :
    ∃ pre, marker o m payload = pre ++ [0xFF, m] ++ be16 (payload.length + 2) ++ payload ∧
      (∀ x ∈ pre, x = 0xFF) ∧
      (be16 (payload.length + 2)).getD 0 0 * 256 + (be16 (payload.length + 2)).getD 1 0 = payload.length + 2 := by
  refine ⟨if o.fill then [0xFF, 0xFF] else [], by simp [marker], ?_, ?_⟩
  · intro x hx
    split at hx
    · simp at hx
      omega
    · simp at hx
  · show (payload.length + 2) / 256 % 256 * 256 + (payload.length + 2) % 256 = payload.length + 2
    omega

/-- the block coder of the writer is inverted by the decoding procedure the reader runs
(restated from C03 for the reader/writer pair) -/
theorem block_coder_inverse (tdc tac : Huff.Tbl) (cdc cac : Huff.CDerived) (ddc dac : Huff.DDerived)
    (h1 : Huff.mkCDerived true false tdc = some cdc) (h2 : Huff.mkDDerived true false tdc = some ddc)
    (h3 : Huff.mkCDerived false false tac = some cac) (h4 : Huff.mkDDerived false false tac = some dac)
    (diff : Int) (ac : List Int) (hlen : ac.length = 63) (hd : diff.natAbs < 32768)
    (hac : ∀ v ∈ ac, v.natAbs < 32768) (bits rest : List Bool) (he : SeqHuff.encodeBlock cdc cac diff ac = some bits) :
    SeqHuff.decodeBlock ddc dac (bits ++ rest) = some (diff, ac, rest) :=
  C03.block_roundtrip tdc tac cdc cac ddc dac h1 h2 h3 h4 diff ac hlen hd hac bits rest he

/-- **A restart interval of a first-pass AC scan, from its bytes**: the bytes the encoder model
writes for the interval (`ProgHuff.acScanBytes`: events -> code bits -> 1-padding -> byte stuffing),
read back the way the reader does (unstuff, unpack, block procedure `n` times), give exactly the
blocks, no pending end-of-band run, and leave fewer than eight 1-bits - which is what the reader
then demands of the end of an interval -/
theorem ac_first_interval_from_bytes (t : Huff.Tbl) (c : Huff.CDerived) (dd : Huff.DDerived)
    (hc : Huff.mkCDerived false false t = some c) (hd : Huff.mkDDerived false false t = some dd)
    (L : Nat) (hL : 1 ≤ L) (blocks : List (List Int)) (hwf : ProgAC.WF L blocks)
    (henc : ∀ s, ProgAC.Ev.sym s ∈ ProgAC.firstEv 0 blocks → (Huff.encode c s).isSome = true) :
    ∃ k, k < 8 ∧
      ProgAC.firstDecBlocks (Huff.decode dd) L blocks.length 0
        (intervalBits (segmentBytes (ProgAC.evBits (C03.codeOf c) (ProgAC.firstEv 0 blocks)))) =
        .ok (blocks, 0, List.replicate k true) := by
  obtain ⟨h1, h2⟩ := interval_framing_roundtrip (ProgAC.evBits (C03.codeOf c) (ProgAC.firstEv 0 blocks))
  exact ⟨_, h2, by rw [h1]; exact C03.ac_first_scan_roundtrip t c dd hc hd L hL blocks hwf henc _⟩

/-- the same for a refinement scan -/
theorem ac_refine_interval_from_bytes (t : Huff.Tbl) (c : Huff.CDerived) (dd : Huff.DDerived)
    (hc : Huff.mkCDerived false false t = some c) (hd : Huff.mkDDerived false false t = some dd)
    (p : Int) (hp : 0 < p) (L : Nat) (hL : 1 ≤ L) (blocks : List (List (Nat × Bool))) (hwf : ∀ b ∈ blocks, b.length = L)
    (henc : ∀ s, ProgAC.Ev.sym s ∈ ProgAC.refEv 0 [] blocks → (Huff.encode c s).isSome = true) :
    ∃ k, k < 8 ∧
      ProgAC.refDecBlocks (Huff.decode dd) p (blocks.map (ProgAC.prevs p)) 0
        (intervalBits (segmentBytes (ProgAC.evBits (C03.codeOf c) (ProgAC.refEv 0 [] blocks)))) =
        .ok (blocks.map (ProgAC.news p), 0, List.replicate k true) := by
  obtain ⟨h1, h2⟩ := interval_framing_roundtrip (ProgAC.evBits (C03.codeOf c) (ProgAC.refEv 0 [] blocks))
  exact ⟨_, h2, by rw [h1]; exact C03.ac_refine_scan_roundtrip t c dd hc hd p hp L hL blocks hwf henc _⟩

/-- **The probability estimation table of the arithmetic coder is Table D.3**: the table compiled
into the library (regenerated on every run) equals, entry by entry, the packed form of the
specification literal the models use -/
theorem qm_table_is_table_D3 : Gen.aritab = Arith.qmTable := by decide

/-- non-vacuity: a stuffed 0xFF and an unstuffed byte -/
example : stuff [0xFF, 0x12] = [0xFF, 0x00, 0x12] ∧ intervalBits (segmentBytes [true, false, true]) = [true, false, true, true, true, true, true, true] := by
  decide

end LJT.Props.C04
