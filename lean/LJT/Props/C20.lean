import LJT.Proofs.TJSize
/-!
# C20 - Planar YUV images follow the published geometry and compose correctly

Full statement: plane widths, heights and sizes equal the published closed forms for every
width, height, subsampling, alignment and stride; the unified-buffer functions equal the
per-plane functions at the documented offsets; decompress-to-planes = raw-data decode
cropped; decode-planes = decompress with fast upsampling.

Proved here (for all arguments, over the model of `src/turbojpeg.c` size helpers with C
integer semantics): the geometry clauses.  The two pixel equalities are not theorems: they
are decided by the correspondence/oracle run on the real code only (DESIGN.md I.6, C20).
-/
namespace LJT.C20
open LJT.TJ LJT.Gen

/-- number of planes for a subsampling level -/
def numPlanes (s : Int) : Int := if s = (TJSAMP_GRAY : Int) then 1 else 3

/-- **Plane width closed form** and exact overflow guard: for every valid request the
function returns `ceil(w / (mcuw/8)) * (mcuw/8)` (luma) or `ceil(w / (mcuw/8))` (chroma),
or 0 exactly when that value does not fit a C `int`. -/
theorem plane_width_closed_form (comp w s : Int) (hs : validSubsamp s = true)
    (hw : 1 ≤ w) (hw2 : w ≤ 2147483647) (hc : 0 ≤ comp) (hc2 : comp < numPlanes s) :
    yuvPlaneWidth comp w s =
      (let r := if comp = 0 then lumaDim w.toNat (mcuW s) else chromaDim w.toNat (mcuW s)
       if r > INT_MAX then 0 else r) :=
  planeDim_closed comp w s (mcuW s) (mcu_pow s hs).1 hs hw hw2 hc hc2

theorem plane_height_closed_form (comp h s : Int) (hs : validSubsamp s = true)
    (hh : 1 ≤ h) (hh2 : h ≤ 2147483647) (hc : 0 ≤ comp) (hc2 : comp < numPlanes s) :
    yuvPlaneHeight comp h s =
      (let r := if comp = 0 then lumaDim h.toNat (mcuH s) else chromaDim h.toNat (mcuH s)
       if r > INT_MAX then 0 else r) :=
  planeDim_closed comp h s (mcuH s) (mcu_pow s hs).2 hs hh hh2 hc hc2

/-- invalid requests are refused (0 = error) for *every* `int` argument -/
theorem plane_dim_rejects_invalid (comp d s : Int) (mcu : Nat)
    (h : d < 1 ∨ validSubsamp s = false ∨ comp < 0 ∨ comp ≥ numPlanes s) :
    planeDim comp d s mcu = 0 := by
  unfold planeDim numPlanes at *
  rcases h with h | h | h | h
  all_goals simp [h]

/-- **Planes cover the image**: the luma plane is at least as wide as the image and the
chroma plane, scaled back by the horizontal subsampling factor, too. -/
theorem planes_cover_image (v mcu : Nat) (hm : mcu = 8 ∨ mcu = 16 ∨ mcu = 32) :
    v ≤ lumaDim v mcu ∧ v ≤ chromaDim v mcu * (mcu / 8) ∧ lumaDim v mcu = chromaDim v mcu * (mcu / 8) := by
  have hp : 0 < mcu / 8 := by rcases hm with rfl | rfl | rfl <;> decide
  exact ⟨(ceilMul_bounds v _ hp).1, (ceilMul_bounds v _ hp).1, rfl⟩

/-- **Buffer size is the sum of the padded planes** (3-plane case). -/
theorem bufsize_is_sum_color (w al h s : Int) (k : Nat) (hk : k ≤ 30) (hal : al = ((2 ^ k : Nat) : Int))
    (hs : validSubsamp s = true) (hg : s ≠ (TJSAMP_GRAY : Int))
    (h0 : planeOK 0 w al h s) (h1 : planeOK 1 w al h s) (h2 : planeOK 2 w al h s) :
    yuvBufSize w al h s = planeBytes 0 w al h s + planeBytes 1 w al h s + planeBytes 2 w al h s := by
  obtain ⟨e0, b0⟩ := yuvBufSize_go_succ w al h s k hk hal 2 0 0 h0 (by decide) (Nat.zero_le _)
  obtain ⟨e1, b1⟩ := yuvBufSize_go_succ w al h s k hk hal 1 1 _ h1 (by decide) b0
  obtain ⟨e2, _⟩ := yuvBufSize_go_succ w al h s k hk hal 0 2 _ h2 (by decide) b1
  rw [yuvBufSize_eq_go w al h s k hal hs, if_neg hg, e0, e1, e2, Nat.zero_add]
  rfl

/-- **Buffer size, grayscale.** -/
theorem bufsize_is_sum_gray (w al h : Int) (k : Nat) (hk : k ≤ 30) (hal : al = ((2 ^ k : Nat) : Int))
    (h0 : planeOK 0 w al h (TJSAMP_GRAY : Int)) :
    yuvBufSize w al h (TJSAMP_GRAY : Int) = planeBytes 0 w al h (TJSAMP_GRAY : Int) := by
  rw [yuvBufSize_eq_go w al h _ k hal (by decide), if_pos rfl,
    (yuvBufSize_go_succ w al h _ k hk hal 0 0 0 h0 (by decide) (Nat.zero_le _)).1, Nat.zero_add, Nat.zero_add]
  rfl

/-- documented plane offsets inside a unified buffer -/
def planeOffset (i : Nat) (w al h s : Int) : Nat :=
  match i with
  | 0 => 0
  | 1 => planeBytes 0 w al h s
  | _ => planeBytes 0 w al h s + planeBytes 1 w al h s

/-- **Unified buffer = per-plane at the documented offsets** (geometry): every plane,
addressed with the unified buffer's own stride, lies inside `tj3YUVBufSize` bytes and the
planes do not overlap (plane `i` ends where plane `i+1` begins). -/
theorem unified_planes_inside_and_disjoint (w al h s : Int) (k : Nat) (hk : k ≤ 30)
    (hal : al = ((2 ^ k : Nat) : Int)) (hs : validSubsamp s = true) (hg : s ≠ (TJSAMP_GRAY : Int))
    (h0 : planeOK 0 w al h s) (h1 : planeOK 1 w al h s) (h2 : planeOK 2 w al h s) :
    ∀ i, i < 3 →
      planeOffset i w al h s + (planeStride i w al s * (yuvPlaneHeight i h s - 1) + yuvPlaneWidth i w s)
        ≤ planeOffset i w al h s + planeBytes i w al h s ∧
      planeOffset i w al h s + planeBytes i w al h s ≤ yuvBufSize w al h s ∧
      (i + 1 < 3 → planeOffset (i + 1) w al h s = planeOffset i w al h s + planeBytes i w al h s) := by
  rw [bufsize_is_sum_color w al h s k hk hal hs hg h0 h1 h2]
  have hal0 : 0 < al.toNat := by rw [hal, Int.toNat_natCast]; exact Nat.two_pow_pos k
  have inside := fun i hph => Nat.add_le_add_left (planeSize_le_bytes i w al h s hal0 hph) (planeOffset i w al h s)
  intro i hi
  match i, hi with
  | 0, _ =>
    refine ⟨inside 0 h0.2.1, ?_, fun _ => (Nat.zero_add _).symm⟩
    rw [planeOffset, Nat.zero_add, Nat.add_assoc]
    exact Nat.le_add_right _ _
  | 1, _ => exact ⟨inside 1 h1.2.1, Nat.le_add_right _ _, fun _ => rfl⟩
  | 2, _ => exact ⟨inside 2 h2.2.1, Nat.le_refl _, fun hlt => absurd hlt (by decide)⟩

/-- **Plane size formula**: `stride * (ph - 1) + pw`, with `stride = pw` when 0 is passed
and `|stride|` otherwise (including `INT_MIN`, which has no `int` negation). -/
theorem plane_size_formula (comp w st h s : Int) (hs : validSubsamp s = true) (hw : 1 ≤ w) (hh : 1 ≤ h)
    (hpw : yuvPlaneWidth comp w s ≠ 0) (hph : yuvPlaneHeight comp h s ≠ 0)
    (hst : st.natAbs ≤ 2147483648) :
    yuvPlaneSize comp w st h s =
      (if st = 0 then yuvPlaneWidth comp w s else st.natAbs) * (yuvPlaneHeight comp h s - 1)
        + yuvPlaneWidth comp w s := by
  unfold yuvPlaneSize
  simp only [Int.not_lt.2 hw, Int.not_lt.2 hh, hs, hpw, hph, decide_false, Bool.not_true, Bool.or_self, Bool.false_eq_true,
    if_false]
  apply Nat.mod_eq_of_lt
  have b1 := yuvPlaneWidth_le comp w s
  have b2 := yuvPlaneHeight_le comp h s
  generalize yuvPlaneWidth comp w s = pw at *
  generalize yuvPlaneHeight comp h s = ph at *
  unfold INT_MAX at b1 b2
  have hA : (if st = 0 then pw else st.natAbs) ≤ 2147483648 := by split <;> omega
  have := Nat.mul_le_mul hA (show ph - 1 ≤ 2147483648 by omega)
  unfold ULL
  omega

/-- **Worst-case JPEG buffer size function, closed form** (shared with C13): whenever the
mathematical value fits 64 bits the function returns exactly it. -/
theorem jpeg_bufsize_closed_form (w h s : Int) (hs : validSubsamp s = true)
    (hw : 1 ≤ w) (hw2 : w ≤ 2147483647) (hh : 1 ≤ h) (hh2 : h ≤ 2147483647)
    (hfit : ceilMul w.toNat (mcuW s) * ceilMul h.toNat (mcuH s) *
        (2 + (if s = (TJSAMP_GRAY : Int) then 0 else 4 * 64 / (mcuW s * mcuH s))) + 2048 < ULL) :
    jpegBufSize w h s = ceilMul w.toNat (mcuW s) * ceilMul h.toNat (mcuH s) *
        (2 + (if s = (TJSAMP_GRAY : Int) then 0 else 4 * 64 / (mcuW s * mcuH s))) + 2048 := by
  obtain ⟨kw, hkw, ekw⟩ := (mcu_pow s hs).1
  obtain ⟨kh, hkh, ekh⟩ := (mcu_pow s hs).2
  have epw : padULL w.toNat (mcuW s) = ceilMul w.toNat (mcuW s) := by
    rw [ekw]; exact padULL_eq _ _ (Nat.le_trans (Nat.add_le_add_right hkw 3) (by decide)) (Int.toNat_le.2 hw2)
  have eph : padULL h.toNat (mcuH s) = ceilMul h.toNat (mcuH s) := by
    rw [ekh]; exact padULL_eq _ _ (Nat.le_trans (Nat.add_le_add_right hkh 3) (by decide)) (Int.toNat_le.2 hh2)
  have hpw : 0 < ceilMul w.toNat (mcuW s) :=
    Nat.lt_of_lt_of_le (Int.lt_toNat.2 hw) (ceilMul_bounds w.toNat (mcuW s) (by rw [ekw]; exact Nat.two_pow_pos _)).1
  have hguard := le_div_div _ _ _ (ULL - 1 - 2048) hpw (Nat.lt_of_lt_of_le (by decide : 0 < 2) (Nat.le_add_right _ _))
    (Nat.le_sub_of_add_le (Nat.le_sub_one_of_lt hfit))
  simp only [validSubsamp, Bool.and_eq_true, decide_eq_true_eq] at hs
  have c3 : ¬ (s < -1) := Int.not_lt.2 (Int.le_trans (by decide) hs.1)
  have c5 : ¬ (s = -1) := fun e => absurd hs.1 (e ▸ by decide)
  unfold jpegBufSize
  simp only [Int.not_lt.2 hw, Int.not_lt.2 hh, c3, Int.not_le.2 hs.2, c5, decide_false, Bool.or_self, Bool.false_eq_true,
    if_false, epw, eph, Nat.not_lt.2 hguard]

-- non-vacuity: a concrete odd-sized 4:2:0 image with 4-byte row alignment meets every
-- hypothesis above (k = 2, planes OK) and gives the documented numbers.
example : planeOK 0 35 4 27 2 ∧ planeOK 1 35 4 27 2 ∧ planeOK 2 35 4 27 2 ∧
    (4 : Int) = ((2 ^ 2 : Nat) : Int) ∧ yuvPlaneWidth 0 35 2 = 36 ∧ yuvPlaneWidth 1 35 2 = 18 ∧ yuvPlaneHeight 1 27 2 = 14 ∧
    yuvBufSize 35 4 27 2 = 36 * 28 + 20 * 14 + 20 * 14 := by
  unfold planeOK; decide +kernel

end LJT.C20
