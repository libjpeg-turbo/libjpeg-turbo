import LJT.Proofs.ICC
import LJT.Proofs.HeaderIO
import LJT.Model.Header
import LJT.Proofs.CopyOpt
/-!
# C16 - Header parameters and embedded metadata round-trip intact

Full statement: dimensions, precision, colourspace, subsampling level, progressive /
arithmetic / lossless flags, predictor and point transform, density and units reported by
header reading equal what was used to compress; an ICC profile of any length from 1 byte
to 255 segments and COM/APPn markers up to 65533 bytes are returned byte-identical and in
order; the transformer copies or drops extra markers exactly as the copy option says.

Proved here: the ICC clause at full strength (every length, every arrangement of the
segments among other markers), the saved-marker prefix rule, the
sampling-factor -> subsampling-level map for all seven levels, the copy options on a reused
source object, and the byte-level round trips of the JFIF fields, the Adobe transform byte,
the frame header and the restart / scan parameters through the marker writer and reader
models.  That the library's own writer and reader are these models, and the remaining
fields, are decided by the correspondence / oracle run on the real library (`hdr`, `msave`
ops; see the level note of C16 in MANIFEST.json).
-/
namespace LJT.C16
open LJT.ICC LJT.Header LJT.Gen

/-- **ICC round trip, order-insensitive, foreign markers ignored**: the APP2 segments may
appear in any order and be interleaved with arbitrary other saved markers (including APP2
markers that do not carry the ICC signature). -/
theorem icc_order_insensitive (p : List Nat) (h1 : 1 ≤ p.length) (h2 : p.length ≤ 255 * 65519)
    (ms : List (Nat × List Nat)) (hperm : (ms.filter isICC).Perm (writeICC p)) :
    readICC ms = some p := by
  obtain ⟨hflat, hlen⟩ := chunks_spec p.length p (Nat.le_refl _)
  rw [writeICC, numMarkers_eq, ← hlen] at hperm
  generalize chunks p.length p = L at *
  have hL : 0 < L.length ∧ L.length ≤ 255 := by rw [hlen, MAX_DATA_eq]; omega
  have hseq : ((ms.filter isICC).map seqNo).Perm (List.range' 1 L.length) :=
    (hperm.map seqNo).trans (.of_eq (seq_mkMarkers L.length L 0 (by rw [Nat.zero_add]; exact Nat.lt_succ_of_le hL.2)))
  have hout : (List.range L.length).flatMap (payloadAt (ms.filter isICC)) = p := by
    rw [← hflat, List.flatMap_def]
    refine congrArg List.flatten (LL.map_range_eq L [] rfl _ fun i hi' => ?_)
    -- the one segment with sequence number `i + 1` is the writer's segment `i`
    have hfind := find_unique seqNo _ _ (hseq.nodup_iff.2 List.nodup_range')
      (hperm.mem_iff.2 ((mem_mkMarkers _ L 0 _).2 ⟨i, hi', rfl⟩))
    rw [Nat.zero_add, mk_seqNo _ _ _ (Nat.succ_lt_succ (Nat.lt_of_lt_of_le hi' hL.2))] at hfind
    rw [payloadAt, hfind]
    simp only [mk_payload, List.getD_eq_getElem?_getD, List.getElem?_eq_getElem hi', Option.getD_some]
  rw [readICC_complete ms L.length hL.1 (fun m hm => by
    obtain ⟨j, hj, rfl⟩ := (mem_mkMarkers _ L 0 m).1 (hperm.mem_iff.1 hm)
    exact mk_count _ _ _ (Nat.lt_succ_of_le hL.2)) hseq, hout, if_neg]
  cases p with
  | nil => exact absurd h1 (by decide)
  | cons _ _ => exact Bool.false_ne_true

/-- **ICC round trip, any length**: for every profile of 1 .. 255 x 65519 bytes, reading
the markers the writer emits returns exactly the profile. -/
theorem icc_roundtrip (p : List Nat) (h1 : 1 ≤ p.length) (h2 : p.length ≤ 255 * 65519) :
    readICC (writeICC p) = some p :=
  icc_order_insensitive p h1 h2 (writeICC p) (.of_eq (filter_mkMarkers _ _ _))

/-- the writer emits exactly `ceil(len / 65519)` segments, each within the marker size limit -/
theorem icc_segment_count (p : List Nat) :
    (writeICC p).length = (p.length + 65519 - 1) / 65519 := by
  unfold writeICC
  rw [mkMarkers_eq, List.length_mapIdx, (chunks_spec _ _ (Nat.le_refl _)).2]
  rfl

/-- **Saved markers**: a marker saved with limit `l` keeps exactly the first
`min l length` bytes and reports the original length (APP0/APP14 keep at least the bytes
the library itself needs). -/
theorem marker_save_prefix (code limit : Nat) (data : List Nat) (d : List Nat) (orig : Nat)
    (h : saved code limit data = some (d, orig)) :
    d = data.take (saveLimit code limit) ∧ orig = data.length ∧ d.length = min (saveLimit code limit) data.length := by
  revert h
  fun_cases saved code limit data with
  | case1 => nofun
  | case2 l hl =>
    rintro ⟨⟩
    exact ⟨List.take_eq_take_min.symm, rfl, by rw [← List.take_eq_take_min, List.length_take]⟩

/-- **Subsampling level is recovered from the sampling factors** for every level and for
3-component as well as 4-component (CMYK/YCCK) images; grayscale reports TJSAMP_GRAY. -/
theorem subsamp_of_factors :
    (∀ s, s < TJ_NUMSAMP → s ≠ TJSAMP_GRAY →
      getSubsamp 3 JCS_YCbCr [(mw s, mh s), (1, 1), (1, 1)] = (s : Int) ∧
      getSubsamp 4 JCS_YCCK [(mw s, mh s), (1, 1), (1, 1), (mw s, mh s)] = (s : Int) ∧
      getSubsamp 4 JCS_CMYK [(mw s, mh s), (1, 1), (1, 1), (mw s, mh s)] = (s : Int)) ∧
    getSubsamp 1 JCS_GRAYSCALE [(1, 1)] = (TJSAMP_GRAY : Int) :=
  ⟨by decide, by decide⟩

open LJT.CopyOpt in
/-- **Copy options select exactly the documented subset, whatever the instance did
before**: on a source object whose marker-save settings were accumulated by any history of
earlier transforms, a transform with option `o` outputs exactly the source's COM/APPn
markers that the option documents, in source order, minus a JFIF/Adobe marker the encoder
already wrote itself. -/
theorem copy_option_spec (hist : List Opt) (o : Opt) (wj wa : Bool) (src : List (Nat × List Nat))
    (hsrc : ∀ m ∈ src, m.1 = CopyOpt.COM ∨ isAPPn m.1 = true) :
    transform (savedAfter hist) o wj wa src =
      src.filter (fun m => documented o m && !(wj && isJFIF m) && !(wa && isAdobe m)) :=
  transform_spec _ o wj wa src hsrc

-- non-vacuity: a 70000-byte profile needs two segments and meets the hypotheses
example : 1 ≤ 70000 ∧ 70000 ≤ 255 * 65519 ∧ numMarkers 70000 = 2 := by decide


open LJT.HeaderIO in
/-- **Pixel density, units and JFIF version round-trip** through `emit_jfif_app0` and `examine_app0`, for every
value the fields can hold and **whatever length limit** an application gave `jpeg_save_markers` for APP0
(none, 0, below or above the 14 bytes the library needs): the marker reader sees at least those 14 bytes. -/
theorem jfif_fields_roundtrip (j : Jfif) (h1 : j.major < 256) (h2 : j.minor < 256) (h3 : j.unit < 256)
    (h4 : j.xd < 65536) (h5 : j.yd < 65536) (limit : Nat) :
    examineApp0 ((jfifPayload j).take (examinedLen 0xE0 limit 14)) = some j := by
  rw [(examinedLen_app limit).1]
  unfold jfifPayload examineApp0 emit2 byte
  simp only [List.cons_append, List.nil_append, List.take_succ_cons, List.take_zero, List.length_cons, List.length_nil,
    List.getD_cons_zero, List.getD_cons_succ, APP0_DATA_LEN]
  simp only [Nat.mod_eq_of_lt h1, Nat.mod_eq_of_lt h2, Nat.mod_eq_of_lt h3, join2 _ h4, join2 _ h5]
  simp

open LJT.HeaderIO in
/-- **The Adobe colour-transform byte round-trips** (how CMYK / YCCK / RGB files tell their colourspace), under any
APP14 save limit. -/
theorem adobe_transform_roundtrip (t : Nat) (h : t < 256) (limit : Nat) :
    examineApp14 ((adobePayload t).take (examinedLen 0xEE limit 12)) = some t := by
  rw [(examinedLen_app limit).2]
  unfold adobePayload examineApp14 emit2 byte
  simp only [List.cons_append, List.nil_append, List.take_succ_cons, List.take_zero, List.length_cons, List.length_nil,
    List.getD_cons_zero, List.getD_cons_succ, APP14_DATA_LEN]
  simp [Nat.mod_eq_of_lt h]

open LJT.HeaderIO in
/-- **Frame header round trip**: data precision, height, width, and per component the identifier, both sampling
factors and the quantisation-table selector, for every frame `emit_sof` can write (dimensions 1..65535, 1..255
components, sampling factors and selectors that fit their fields). -/
theorem frame_header_roundtrip (s : Sof) (hp : s.precision < 256) (hh1 : 1 ≤ s.height) (hh : s.height < 65536)
    (hw1 : 1 ≤ s.width) (hw : s.width < 65536) (hn1 : 1 ≤ s.comps.length) (hn : s.comps.length < 256)
    (hc : ∀ c ∈ s.comps, c.id < 256 ∧ c.h < 16 ∧ c.v < 16 ∧ c.tq < 256) :
    parseSof (sofBytes s) = some s := by
  unfold sofBytes parseSof emit2
  simp only [List.cons_append, List.nil_append]
  have hl : 3 * s.comps.length + 2 + 5 + 1 < 65536 := by omega
  simp only [join2 _ hl, join2 _ hh, join2 _ hw, byte, Nat.mod_eq_of_lt hn, Nat.mod_eq_of_lt hp]
  have := parseComps_roundtrip s.comps hc
  rw [if_neg (by omega), if_neg (by omega)]
  simp only [byte] at this
  rw [this]
  rfl

open LJT.HeaderIO in
/-- **Restart interval, predictor selection value and point transform round-trip** (DRI; the `Ss Se Ah|Al` bytes
that end a scan header carry the lossless predictor in `Ss` and the point transform in `Al`). -/
theorem restart_and_scan_parameters_roundtrip (ri ss se ah al : Nat) (h0 : ri < 65536) (h1 : ss < 256) (h2 : se < 256)
    (h3 : ah < 16) (h4 : al < 16) :
    parseDri (driBytes ri) = some ri ∧ parseSosParams (sosParams ss se ah al) = some (ss, se, ah, al) := by
  constructor
  · unfold driBytes parseDri emit2
    simp only [List.cons_append, List.nil_append]
    rw [join2 _ h0]
    simp
  · unfold sosParams parseSosParams
    simp only [nib _ _ h3 h4]
    simp only [byte, Nat.mod_eq_of_lt h1, Nat.mod_eq_of_lt h2]

-- non-vacuity
open LJT.HeaderIO in
example : parseSof (sofBytes ⟨8, 480, 640, [⟨1, 2, 2, 0⟩, ⟨2, 1, 1, 1⟩, ⟨3, 1, 1, 1⟩]⟩) =
    some ⟨8, 480, 640, [⟨1, 2, 2, 0⟩, ⟨2, 1, 1, 1⟩, ⟨3, 1, 1, 1⟩]⟩ := by decide +kernel


end LJT.C16
