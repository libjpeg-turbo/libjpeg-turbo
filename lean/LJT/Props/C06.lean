import LJT.Proofs.Transform
/-!
# C06 - Lossless transforms move DCT blocks exactly and obey group laws

Full statement: a lossless transform (flip, transpose, transverse, rot 90/180/270, crop at
iMCU boundaries, gray, with or without trim, any entropy option, tj3Transform or jpegtran)
yields the source's quantisation tables (transposed where the operation transposes) and
exactly the source blocks, relocated and sign/transposition-adjusted; blocks outside a
cropped or trimmed region are absent and edge blocks that cannot be moved stay in place;
on whole-iMCU images composed transforms obey the geometric group laws; a request flagged
perfect fails instead of producing an imperfect result.

`Model.Transform.moveBlock` is the closed form of all block movers (it is compared with the
real `tj3Transform` output block by block - dimensions, sampling factors, table and block
hashes - on every generated case).  Proved here about that closed form: the block algebra,
the inverse law for all eight operations, the composition laws, the meaning of `perfect`,
what trimming removes, and table transposition.
-/
namespace LJT.C06
open LJT.Xform

/-- **Every destination block is one source block, adjusted by the operation's block op**
(the closed form, pinned as a theorem): inside the area made of whole iMCUs the source
position is the mirrored (and, for transposing operations, exchanged) position; outside it
the block stays where it is and is at most transposed. -/
theorem blocks_exact (op : Op) (src : Nat → Nat → Block) (cw ch xb yb y x : Nat) :
    moveBlock op src cw ch xb yb y x =
      (let mx := op.mirX && decide (x + xb < cw)
       let my := op.mirY && decide (y + yb < ch)
       let X' := if mx then cw - 1 - (x + xb) else x + xb
       let Y' := if my then ch - 1 - (y + yb) else y + yb
       blockOp op.swaps mx my (if op.swaps then src X' Y' else src Y' X')) := rfl

/-- **Inverse law for all eight operations** on images made of whole iMCUs: the operation
followed by its inverse (rot90/rot270 are each other's, all others are involutions)
restores every source block. -/
theorem inverse_law (op : Op) (g : Grid) (hblk : ∀ y x, IsBlock (g.at_ y x)) (y x : Nat)
    (hy : y < g.hb) (hx : x < g.wb) :
    (applyFull op.inverse (applyFull op g)).at_ y x = g.at_ y x := by
  have e1 := mirror_mirror hx
  have e2 := mirror_mirror hy
  have hx' := mirror_lt hx
  have hy' := mirror_lt hy
  -- the source position is mirrored back (`e1`, `e2`); what is left are the block operations, which cancel by the block algebra
  cases op <;>
    simp only [applyFull, moveBlock, Op.inverse, Op.swaps, Op.mirX, Op.mirY, blockOp, Nat.add_zero,
      Bool.true_and, Bool.false_and, hx, hy, hx', hy', decide_true, if_true, if_false,
      Bool.false_eq_true, e1, e2, trB_negRows, trB_negCols, negCols_negRows, trB_trB, negCols_negCols, negRows_negRows, hblk]

/-- dimensions come back too -/
theorem inverse_law_dims (op : Op) (g : Grid) :
    (applyFull op.inverse (applyFull op g)).hb = g.hb ∧ (applyFull op.inverse (applyFull op g)).wb = g.wb := by
  cases op <;> simp [applyFull, Op.inverse, Op.swaps]

/-- **Composition laws**: rot90 = hflip after transpose, rot270 = vflip after transpose,
rot180 = vflip after hflip, transverse = rot180 after transpose. -/
theorem composition_laws (g : Grid) (y x : Nat) :
    (y < g.wb → x < g.hb →
      (applyFull .hflip (applyFull .transpose g)).at_ y x = (applyFull .rot90 g).at_ y x ∧
      (applyFull .vflip (applyFull .transpose g)).at_ y x = (applyFull .rot270 g).at_ y x ∧
      (applyFull .rot180 (applyFull .transpose g)).at_ y x = (applyFull .transverse g).at_ y x) ∧
    (y < g.hb → x < g.wb →
      (applyFull .vflip (applyFull .hflip g)).at_ y x = (applyFull .rot180 g).at_ y x) := by
  constructor
  all_goals
    intro hy hx
    have hx' := mirror_lt hx
    have hy' := mirror_lt hy
    simp only [applyFull, moveBlock, Op.swaps, Op.mirX, Op.mirY, blockOp, Nat.add_zero, Bool.true_and,
      Bool.false_and, hx, hy, hx', hy', decide_true, if_true, if_false, Bool.false_eq_true, and_self]

/-- **Block algebra** used by the laws above. -/
theorem block_algebra (b : Block) (hb : IsBlock b) :
    trB (trB b) = b ∧ negCols (negCols b) = b ∧ negRows (negRows b) = b ∧
    trB (negCols b) = negRows (trB b) ∧ trB (negRows b) = negCols (trB b) ∧
    negCols (negRows b) = negRows (negCols b) :=
  ⟨trB_trB b hb, negCols_negCols b hb, negRows_negRows b hb, trB_negCols b, trB_negRows b, negCols_negRows b⟩

/-- **Perfect** holds exactly when every source dimension that the operation mirrors is a
whole number of iMCUs ... -/
theorem perfect_iff (w h mw mh : Nat) (op : Op) :
    perfect w h mw mh op = true ↔ ((op.needsW = true → w % mw = 0) ∧ (op.needsH = true → h % mh = 0)) := by
  cases op <;> simp [perfect, Op.needsW, Op.needsH, Op.swaps, Op.mirX, Op.mirY]

/-- ... and **a request flagged perfect fails instead of producing an imperfect result**. -/
theorem perfect_request_fails (srcW srcH hs vs nc : Nat) (op : Op) (trim gray crop : Bool) (cx cy cw ch : Nat)
    (h : perfect srcW srcH (if (if gray && nc == 3 then 1 else nc) == 1 then 8 else hs * 8)
          (if (if gray && nc == 3 then 1 else nc) == 1 then 8 else vs * 8) op = false) :
    plan srcW srcH hs vs nc op true trim gray crop cx cy cw ch = none := by
  unfold plan
  simp only [Bool.true_and, h, Bool.not_false, if_true]

/-- **Trimming removes exactly the partial iMCU** at a mirrored edge: with no crop the
trimmed size is the largest multiple of the iMCU size (when at least one iMCU fits). -/
theorem trim_drops_partial (full i : Nat) (hpos : full / i > 0) :
    trimEdge true full i 0 full = full / i * i ∧ trimEdge false full i 0 full = full := by
  unfold trimEdge
  simp [hpos]

/-- **Quantisation tables are those of the source, transposed iff the operation
transposes**, and transposing twice gives the table back. -/
theorem quant_transposed (op : Op) (q : List Nat) (hq : q.length = 64) :
    (op.swaps = false → xformQuant op q = q) ∧
    (op.swaps = true → ∀ k, k < 64 → (xformQuant op q).getD k 0 = q.getD ((k % 8) * 8 + k / 8) 0) ∧
    xformQuant op (xformQuant op q) = q := by
  refine ⟨fun h => by simp [xformQuant, h], fun h k hk => by simp only [xformQuant, h, if_true]; exact LL.getD_map_range _ hk 0, ?_⟩
  by_cases h : op.swaps = true
  · simp only [xformQuant, h, if_true]
    exact transpose_transpose q 0 hq
  · simp [xformQuant, h]

-- non-vacuity: a 2x3-block grid, rot90 then rot270
example : let g : Grid := ⟨2, 3, fun y x => (List.range 64).map (fun k => ((y * 100 + x * 10 + k : Nat) : Int))⟩
    (applyFull .rot270 (applyFull .rot90 g)).at_ 1 2 = g.at_ 1 2 ∧ (applyFull .rot90 g).hb = 3 := by
  intro g
  exact ⟨inverse_law .rot90 g (fun _ _ => by simp [g, IsBlock]) 1 2 (by decide) (by decide), rfl⟩

end LJT.C06
