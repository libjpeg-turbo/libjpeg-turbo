import LJT.Proofs.PNM
/-! # C18 - image file loading is robust and save/load round-trips exactly

Property theorems about `LJT.PNM` (Model/PNM.lean), the model of `tj3LoadImage*` /
`tj3SaveImage*` for PPM/PGM files in the grayscale and RGB-family pixel formats.
`load` is a total function on byte strings: termination and the absence of out-of-bounds
reads of the *model* hold by construction; for the real code they are observed under
sanitizers.  BMP, GIF, Targa and the CMYK conversion are outside the model. -/
namespace LJT.Props.C18
open LJT.PNM

/-- **Every successful load is in range and within the limits**: for every byte string,
precision, requested pixel format, pixel limit and row order, all samples of the returned
image lie in `0 .. 2^P - 1` (`-1` marks the undefined X component of the RGBX formats), the
image is not empty, not larger than the format allows and not larger than the pixel limit. -/
theorem load_in_range_and_within_limit (P pf maxPixels : Nat) (bottomUp : Bool) (file : List Nat) (img : Image)
    (h : load P pf maxPixels bottomUp file = .ok img) :
    (∀ row ∈ img.rows, ∀ x ∈ row, -1 ≤ x ∧ x ≤ ((2 ^ P - 1 : Nat) : Int)) ∧
    (maxPixels ≠ 0 → img.w * img.h ≤ maxPixels) ∧ 1 ≤ img.w ∧ 1 ≤ img.h ∧ img.w ≤ 65535 ∧ img.h ≤ 65535 := by
  revert h
  -- one case per exit of `load`, in the order of its text: the tenth is the successful one, every other contradicts
  -- the hypothesis.  The case binds what `load` has in scope there: the type digit `c`, width, height and `maxval`
  -- with the rest of the file after each, the checks passed, the `let`s, the samples `vs`
  fun_cases load P pf maxPixels bottomUp file
  case case10 c s0 _ w s1 hw hh s2 hhh maxval s3 hmv hz hpix isGray isText pf' pfo hpfo spp n samples vs hvs pixels rows =>
    intro h
    cases h
    have hpos : 1 ≤ w ∧ 1 ≤ hh ∧ 1 ≤ maxval := by omega
    have hvs' : ∀ x ∈ vs, x ≤ 2 ^ P - 1 := by
      by_cases htext : isText
      · exact readText_le P maxval hpos.2.2 _ _ _ ((if_pos htext).symm.trans hvs)
      · exact readRaw_le P maxval _ _ hpos.2.2 _ _ _ ((if_neg htext).symm.trans hvs)
    refine ⟨?_, fun hmp => Nat.le_of_not_lt fun hlt => hpix ⟨hmp, hlt⟩, hpos.1, hpos.2.1,
      readInt_le _ _ _ _ hw, readInt_le _ _ _ _ hhh⟩
    intro row hrow x hx
    obtain ⟨c, hc, rfl⟩ := List.mem_map.1 (rows_mem _ _ _ hrow)
    obtain ⟨px, hpx, hxpx⟩ := List.mem_flatten.1 hx
    have hpx' : px ∈ pixels := chunk_mem w hh _ c hc px hpx
    by_cases h6 : pfo = 6
    · rw [show pixels = _ from if_pos h6] at hpx'
      obtain ⟨v, hv, rfl⟩ := List.mem_map.1 hpx'
      cases List.mem_singleton.1 hxpx
      exact ⟨by omega, Int.ofNat_le.2 (hvs' v hv)⟩
    · rw [show pixels = _ from if_neg h6] at hpx'
      split at hpx'
      · obtain ⟨v, hv, rfl⟩ := List.mem_map.1 hpx'
        exact mkPixel_range _ P v v v (hvs' v hv) (hvs' v hv) (hvs' v hv) x hxpx
      · obtain ⟨t, ht, rfl⟩ := List.mem_map.1 hpx'
        obtain ⟨h1, h2, h3⟩ := triples_mem vs t ht
        exact mkPixel_range _ P _ _ _ (hvs' _ h1) (hvs' _ h2) (hvs' _ h3) x hxpx
  all_goals nofun

/-- `read_pbm_integer` never returns a value above the bound it was given (this is what keeps
the index into `rescale[]` inside the table) -/
theorem read_integer_bounded (m : Nat) (s : List Nat) (v : Nat) (r : List Nat) (h : readInt m s = .ok (v, r)) :
    v ≤ m := readInt_le m s v r h

/-- the rescale table: into range, monotone, end points fixed, identity at full scale -/
theorem rescale_table (P maxval : Nat) (hm : 1 ≤ maxval) :
    (∀ v ≤ maxval, rescale P maxval v ≤ 2 ^ P - 1) ∧
    (∀ a b, a ≤ b → rescale P maxval a ≤ rescale P maxval b) ∧
    rescale P maxval 0 = 0 ∧ rescale P maxval maxval = 2 ^ P - 1 ∧
    (maxval = 2 ^ P - 1 → ∀ v ≤ maxval, rescale P maxval v = v) :=
  ⟨fun v hv => rescale_le P maxval v hm hv, fun a b hab => rescale_mono P maxval a b hab,
   rescale_zero P maxval hm, rescale_max P maxval hm, fun hf v _ => rescale_id P maxval v hm hf⟩

/-- decimal printing followed by `read_pbm_integer` is the identity -/
theorem header_number_roundtrip (m n c : Nat) (rest : List Nat) (hn : n ≤ m) (hc : isDigit c = false) (hc2 : c ≠ 35) :
    readInt m (decDigits n ++ c :: rest) = .ok (n, rest) := by
  obtain ⟨hne, hdig, hval⟩ := decAux_spec (n + 1) n [] (Nat.lt_succ_self n) nofun
  unfold decDigits
  generalize decDigitsAux (n + 1) n [] = ds at *
  cases ds with
  | nil => exact absurd rfl hne
  | cons d t =>
    rw [List.cons_append, readInt_digit m d _ (hdig d (List.mem_cons_self ..)), ← List.cons_append,
      readDigits_digits m c rest hc hc2 (d :: t) _ 0 hdig (hval ▸ hn)
      (by simp only [List.length_cons, List.length_append]; omega), hval]
    rfl

/-- the raw body of a file written row by row is read back as the same samples (one- and
two-byte samples) -/
theorem body_roundtrip (P maxval rs bits : Nat) (hm : 1 ≤ maxval) (hfull : maxval = 2 ^ P - 1)
    (hb : (bits = 8 ∧ maxval ≤ 255) ∨ (bits ≠ 8 ∧ 255 < maxval ∧ maxval ≤ 65535))
    (rows : List (List Nat)) (h : ∀ r ∈ rows, r.length = rs ∧ ∀ v ∈ r, v ≤ maxval) :
    readRaw P maxval rs (decide (maxval > 255)) rows.length ((rows.map (encRow bits)).flatten) = .ok rows.flatten := by
  induction rows with
  | nil => simp [readRaw]
  | cons r t ih =>
    obtain ⟨hlen, hv⟩ := h r (List.mem_cons_self ..)
    have iht := ih (fun r' hr' => h r' (List.mem_cons_of_mem _ hr'))
    rcases hb with ⟨rfl, h255⟩ | ⟨hb8, h255, h64⟩
    · have hw : decide (maxval > 255) = false := decide_eq_false (Nat.not_lt.2 h255)
      rw [hw] at iht ⊢
      have henc : encRow 8 r = r := encRow8 r (fun v hv' => Nat.le_trans (hv v hv') h255)
      simp only [List.map_cons, List.flatten_cons, List.length_cons, readRaw, henc, Bool.false_eq_true, if_false, false_and]
      rw [if_neg (by rw [List.length_append, hlen]; exact Nat.not_lt.2 (Nat.le_add_right _ _))]
      rw [List.drop_left' hlen, iht, List.take_left' hlen, map_eq_self (fun v hv' => byteSample_id P maxval v hm hfull (hv v hv'))]
    · have hw : decide (maxval > 255) = true := decide_eq_true h255
      rw [hw] at iht ⊢
      obtain ⟨hwords, hl2⟩ := words_encRow hb8 r (fun v hv' => Nat.le_trans (hv v hv') h64)
      rw [hlen] at hl2
      simp only [List.map_cons, List.flatten_cons, List.length_cons, readRaw, if_true, true_and]
      rw [if_neg (by rw [List.length_append, hl2]; exact Nat.not_lt.2 (Nat.le_add_right _ _))]
      rw [List.take_left' hl2, List.drop_left' hl2, hwords]
      rw [if_neg (by simp; intro x hx; exact hv x hx)]
      rw [iht, map_eq_self (fun v _ => rescale_id P maxval v hm hfull)]

/-- **Save then load is the identity** for grayscale images: every precision 2..16 (with the
8-bit sample type for 2..8 and the 12/16-bit types above), both row orders, every size
1..65535 and every image whose samples fit the precision. -/
theorem save_load_roundtrip_gray (P bits : Nat) (hP : 2 ≤ P ∧ P ≤ 16) (hbits : (bits = 8 ∧ P ≤ 8) ∨ (bits ≠ 8 ∧ 9 ≤ P))
    (bottomUp : Bool) (w h : Nat) (hw : 1 ≤ w ∧ w ≤ 65535) (hh : 1 ≤ h ∧ h ≤ 65535) (rows : List (List Nat))
    (hlen : rows.length = h) (hrows : ∀ r ∈ rows, r.length = w ∧ ∀ v ∈ r, v ≤ 2 ^ P - 1) :
    ∃ f, save P bits 6 bottomUp w h rows = some f ∧
      load P 6 0 bottomUp f = .ok ⟨w, h, 6, rows.map (List.map (fun (v : Nat) => (v : Int)))⟩ := by
  -- `m = 2 ^ P - 1` lies in 3 .. 65535, and one byte per sample is used exactly when it is at most 255
  have hpow : ∀ {a b : Nat}, a ≤ b → 2 ^ a ≤ 2 ^ b := Nat.pow_le_pow_right (by decide)
  have hmle : 2 ^ P - 1 ≤ 65535 := Nat.sub_le_of_le_add (hpow hP.2)
  have hm1 : 1 ≤ 2 ^ P - 1 := Nat.le_sub_one_of_lt (Nat.lt_of_lt_of_le (by decide) (hpow hP.1))
  have hb : (bits = 8 ∧ 2 ^ P - 1 ≤ 255) ∨ (bits ≠ 8 ∧ 255 < 2 ^ P - 1 ∧ 2 ^ P - 1 ≤ 65535) :=
    hbits.imp (fun ⟨hb8, hp8⟩ => ⟨hb8, Nat.sub_le_of_le_add (hpow hp8)⟩)
      (fun ⟨hb8, hp9⟩ => ⟨hb8, Nat.le_sub_one_of_lt (Nat.lt_of_lt_of_le (by decide) (hpow hp9)), hmle⟩)
  generalize hm : 2 ^ P - 1 = m at *
  obtain ⟨rs, hrs0⟩ : ∃ rs, (if bottomUp = true then rows.reverse else rows) = rs := ⟨_, rfl⟩
  have hrs : ∀ r ∈ rs, r.length = w ∧ ∀ v ∈ r, v ≤ m :=
    fun r hr => hrows r (rows_mem bottomUp rows r (hrs0 ▸ hr))
  have hrslen : rs.length = h := by
    rw [← hrs0, ← hlen]
    cases bottomUp
    · rfl
    · exact List.length_reverse
  have hbody : (rs.map fun r => (r.take w).flatMap (putSample bits)) = rs.map (encRow bits) :=
    List.map_congr_left fun r hr => by rw [List.take_of_length_le (Nat.le_of_eq (hrs r hr).1)]; rfl
  refine ⟨_, by simp only [save, if_true, hrs0, hm, hbody, List.cons_append, List.nil_append, List.append_assoc]; rfl,
    ?_⟩
  have hraw := body_roundtrip P m w bits hm1 hm.symm hb rs hrs
  rw [hrslen] at hraw
  unfold load
  -- the header as written: `P5` (80, 53), newline (10), width, blank (32), height, newline, maxval, newline
  simp only [readInt_skip_ws 65535 10 _ (by decide),
    header_number_roundtrip 65535 w 32 _ hw.2 (by decide) (by decide),
    header_number_roundtrip 65535 h 10 _ hh.2 (by decide) (by decide),
    header_number_roundtrip 65535 m 10 _ hmle (by decide) (by decide)]
  have hz : ¬ (w = 0 ∨ h = 0 ∨ m = 0) :=
    not_or.2 ⟨Nat.ne_of_gt hw.1, not_or.2 ⟨Nat.ne_of_gt hh.1, Nat.ne_of_gt hm1⟩⟩
  simp only [show ¬ ((53 : Nat) ≠ 50 ∧ (53 : Nat) ≠ 51 ∧ (53 : Nat) ≠ 53 ∧ (53 : Nat) ≠ 54) by decide, if_false, hz,
    show ¬ ((0 : Nat) ≠ 0 ∧ w * h > 0) from fun e => e.1 rfl, or_true, if_true, Nat.mul_one,
    show ¬((53 : Nat) = 50 ∨ (53 : Nat) = 51) by decide, hraw]
  congr 1
  have hchunk := chunk_flatten_map (fun (v : Nat) => [(v : Int)]) w rs (fun r hr => (hrs r hr).1)
  rw [hrslen] at hchunk
  simp only [hchunk, List.map_map]
  have : (List.flatten ∘ List.map fun (v : Nat) => [(v : Int)]) = List.map (fun (v : Nat) => (v : Int)) := by
    funext l; rw [Function.comp, ← List.flatMap_def, ← List.map_eq_flatMap]
  rw [this]
  congr 1
  subst hrs0
  cases bottomUp <;> simp

/-- non-vacuity and sanity on concrete files -/
example : load 8 12 0 false [80, 53, 10, 50, 32, 49, 10, 50, 53, 53, 10, 7, 200] = .ok ⟨2, 1, 6, [[7, 200]]⟩ := by rfl
example : load 3 6 0 false [80, 50, 32, 49, 32, 49, 32, 55, 32, 57] = .error .outofrange := by rfl
example : load 8 0 1 false [80, 54, 32, 50, 32, 49, 32, 50, 53, 53, 10, 1, 2, 3, 4, 5, 6] = .error .toobig := by rfl
example : save 8 8 6 false 2 1 [[7, 200]] = some [80, 53, 10, 50, 32, 49, 10, 50, 53, 53, 10, 7, 200] := by decide

end LJT.Props.C18
