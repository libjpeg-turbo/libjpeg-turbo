import LJT.Proofs.SeqHuff
import LJT.Proofs.Suspend
import LJT.Gen.Tables
import LJT.Gen.Src
import LJT.Proofs.SeqStable
/-! # C01 - decoding arbitrary bytes is memory-safe, terminating and error-reporting

What a theorem can carry of this property: statements for *every* bit string about the model
decoders (the block decoder never produces more than the block holds, the zigzag table is
padded so that a run can never index outside it, the marker loop makes progress).  Memory
safety, absence of undefined behaviour, initialised output and the time bound of the real
decoder are observed on the real code (harness `dfz`, sanitizers, prefill differencing,
per-call watchdog). -/
namespace LJT.Props.C01
open LJT.Huff LJT.SeqHuff LJT.Suspend

/-- **Whatever the bits are, a decoded block has exactly the coefficients asked for**: the AC
decoder, fed any bit string with any table, either fails or returns exactly `rem` values -
a run or a ZRL can never carry it past the end of the block -/
theorem ac_decode_stays_in_block (dd : DDerived) : ∀ (fuel rem : Nat) (bits : List Bool) (l : List Int) (rest : List Bool),
    decodeAC dd fuel rem bits = some (l, rest) → l.length = rem :=
  fun fuel rem bits l rest h => (decodeAC_reads dd fuel rem bits l rest h).2.1

/-- **The zigzag table is padded** (`jpeg_natural_order[DCTSIZE2 + 16]`): from any position in
the block plus any 4-bit run the index stays inside the table, and every entry is a valid
coefficient position - the guarantee jdhuff.c / jdphuff.c rely on when a corrupt run length
carries `k` beyond 63 -/
theorem natural_order_padded :
    Gen.naturalOrder.length = 80 ∧ (∀ k r, k ≤ 63 → r ≤ 15 → k + r < Gen.naturalOrder.length) ∧
    (∀ x ∈ Gen.naturalOrder, x ≤ 63) := by
  have h80 : Gen.naturalOrder.length = 80 := by decide
  refine ⟨h80, fun k r hk hr => ?_, by decide⟩
  omega

/-- **The marker loop makes progress**: every marker segment read consumes at least four
bytes, so the number of segments processed is bounded by the input length -/
theorem marker_loop_bounded : ∀ (count : Nat) (d : List Nat) (cf : Nat) (lf : List Nat),
    ChunkRun segStep count d [] cf lf → 4 * (cf - count) + lf.length ≤ d.length ∧ count ≤ cf := by
  intro count d cf lf h
  generalize hcs : ([] : List (List Nat)) = cs at h
  induction h with
  | done s buf _ => simp
  | adv s buf cs s' n sf lf hs _ ih =>
    subst hcs
    have ih' := ih rfl
    revert hs
    -- the one successful branch of `segStep`: two marker bytes, two length bytes and the payload they announce are there
    fun_cases segStep s buf with
    | case1 =>
      intro hs
      cases hs
      simp only [List.length_drop, List.length_cons] at ih' ⊢
      omega
    | _ => exact fun hs => nomatch hs
  | more s buf c cs sf lf _ _ _ => cases hcs

/-- non-vacuity: a run over two segments and a trailing byte -/
example : ChunkRun segStep 0 [0xFF, 0xFE, 0, 2, 0xFF, 0xE0, 0, 3, 9, 0xD9] [] 2 [0xD9] := by
  apply ChunkRun.adv _ _ _ 1 4 _ _ (by decide)
  apply ChunkRun.adv _ _ _ 2 5 _ _ (by decide)
  exact ChunkRun.done _ _ (by decide)

/-- **The unchecked fast path of the Huffman decoder has enough input** (src/jdhuff.c
`decode_mcu`: `decode_mcu_fast` reads the source buffer through a bare pointer and is chosen only
when at least `BUFSIZE` bytes per block of the MCU are in the buffer).  Whatever the bit string and
the tables: a block that the model decoder decodes consumes at most 1985 bits; in the source buffer
every byte of them may be a 0xFF followed by a stuffed zero, and the bit-buffer refill reads up to
6 more data bytes (12 with stuffing) ahead of what is consumed.  That total fits `BUFSIZE` as it
stands in the source (regenerated on every run). -/
theorem decoder_fast_path_budget (ddc dac : DDerived) (hsym : ∀ v ∈ ddc.vals, v ≤ 16) (bits : List Bool)
    (diff : Int) (ac : List Int) (rest : List Bool) (h : decodeBlock ddc dac bits = some (diff, ac, rest)) :
    2 * ((bits.length - rest.length + 7) / 8) + 12 ≤ Gen.Src.jdhuff_BUFSIZE := by
  have hb := (decodeBlock_reads ddc dac bits diff ac rest h).2 hsym
  unfold Gen.Src.jdhuff_BUFSIZE
  omega

/-- non-vacuity: the bound is nearly tight (1985 bits -> 249 bytes -> 498 stuffed + 12 = 510 of 512),
and the Annex K DC table delivers only categories -/
example : 2 * ((1985 + 7) / 8) + 12 = 510 ∧ Gen.Src.jdhuff_BUFSIZE = 512 ∧ (∀ v ∈ Gen.stdDcLumVals, v ≤ 16) := by
  decide

end LJT.Props.C01
