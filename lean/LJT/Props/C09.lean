import LJT.Proofs.Suspend
import LJT.Proofs.SeqStable
/-! # C09 - decoded and encoded data do not depend on I/O chunking or scheduling

Theorems about the suspension protocol (Model/Suspend.lean).  The generic theorem is stated
for any unit of work that obeys libjpeg's suspension contract ("either finish, or return
suspended with the saved state untouched; never look beyond what is needed"); it is proved for
the marker-segment reader (bytes), for the sequential Huffman MCU decoder (bits; the model
`SeqHuff.decodeBlocks`, the same functions the C03 round trip and the T.81 reader are built
from) and for the lossless MCU decoder (`LL.decodeMcu`, of the C02 round trip); that the
remaining real units (progressive and arithmetic `decode_mcu_*`,
`encode_mcu_huff`) and the bit buffer in front of the MCU decoder obey it is what the harness
checks on the real code under every split position. -/
namespace LJT.Props.C09
open LJT.Suspend

/-- **Chunking is invisible to a conforming consumer**: two deliveries of the same byte
string, cut into chunks in any two ways (including 1-byte chunks and every single split),
drive any stable unit of work to the same final state with the same unread bytes -/
theorem chunking_independent {σ : Type} (step : Step σ) (hst : Stable step) (s : σ)
    (cs1 cs2 : List (List Nat)) (h : cs1.flatten = cs2.flatten) (a1 a2 : σ) (b1 b2 : List Nat)
    (h1 : ChunkRun step s [] cs1 a1 b1) (h2 : ChunkRun step s [] cs2 a2 b2) : a1 = a2 ∧ b1 = b2 :=
  LJT.Suspend.chunking_independent step hst s cs1 cs2 h a1 a2 b1 b2 h1 h2

/-- every chunked execution is an execution on the bytes delivered at once -/
theorem chunked_run_is_whole_run {σ : Type} (step : Step σ) (hst : Stable step) (s : σ) (buf : List Nat)
    (cs : List (List Nat)) (sf : σ) (lf : List Nat) (h : ChunkRun step s buf cs sf lf) :
    ChunkRun step s (buf ++ cs.flatten) [] sf lf := chunks_to_whole step hst s buf cs sf lf h

/-- **The application-side source manager loses and invents nothing**: appending a chunk
behind the unread bytes leaves the byte string still to be seen unchanged, a successful read
returns its prefix, and `skip_input_data` - also across chunk boundaries - drops exactly `n` bytes -/
theorem source_manager_bookkeeping (s : Src) :
    (∀ s', s.refill = some s' → s'.remaining = s.remaining) ∧
    (∀ n bs s', s.read n = some (bs, s') → s.remaining = bs ++ s'.remaining ∧ bs.length = n) ∧
    (∀ n, s.skip = 0 → (s.skipData n).remaining = s.remaining.drop n) := by
  refine ⟨fun s' => ?_, fun n bs s' => ?_, fun n h0 => ?_⟩
  · fun_cases Src.refill s with
    | case1 => nofun
    | case2 c r hr b =>
      intro h
      cases h
      simp only [Src.remaining, hr, List.flatten_cons]
      rw [drop_refill, List.append_assoc]
  · fun_cases Src.read n s with
    | case1 hc =>
      intro h
      cases h
      unfold Src.remaining
      rw [hc.1, List.drop_zero, List.drop_zero, ← List.append_assoc, List.take_append_drop]
      exact ⟨rfl, List.length_take_of_le hc.2⟩
    | case2 => nofun
  · fun_cases Src.skipData n s with
    | case1 hn =>
      simp only [Src.remaining, h0, List.drop_zero]
      rw [List.drop_append_of_le_length hn]
    | case2 hn =>
      simp only [Src.remaining, h0, List.drop_zero, Nat.zero_add, List.nil_append]
      rw [List.drop_append, List.drop_of_length_le (Nat.le_of_not_le hn), List.nil_append]

/-- the marker-segment reader is a stable unit of work -/
theorem marker_reader_is_stable : Stable segStep := segStep_stable
-- non-vacuity: a run of it exists
example : ChunkRun segStep 0 [] [[0xFF, 0xFE, 0], [3, 7], [0xFF]] 1 [0xFF] := by
  apply ChunkRun.more _ _ _ _ _ _ (by decide)
  apply ChunkRun.more _ _ _ _ _ _ (by decide)
  apply ChunkRun.adv _ _ _ 1 5 _ _ (by decide)
  apply ChunkRun.more _ _ _ _ _ _ (by decide)
  exact ChunkRun.done _ _ (by decide)

/-- **The sequential Huffman MCU decoder is a conforming unit of work**: for every pair of tables per component and
every MCU layout, if it decodes an MCU from the bits it has, it decodes the same MCU, leaves the same predictors and
consumes the same number of bits when any further bits follow - it never looks beyond what it needs. -/
theorem mcu_decoder_is_stable (tabs : Nat → Option (LJT.Huff.DDerived × LJT.Huff.DDerived)) (slots : List Nat) :
    Stable (LJT.SeqHuff.mcuStep tabs slots) :=
  stable_of_extends _ (fun st => LJT.SeqHuff.decodeBlocks tabs st.1 slots)
    (fun st bs => (LJT.SeqHuff.predAfter st.1 bs, st.2 ++ [bs]))
    (fun st bits => by unfold LJT.SeqHuff.mcuStep; cases LJT.SeqHuff.decodeBlocks tabs st.1 slots bits <;> rfl)
    (fun st => LJT.SeqHuff.decodeBlocks_append tabs slots st.1)

/-- **Decoded MCUs do not depend on how the entropy-coded bits were delivered**: two deliveries of the same bit string,
cut anywhere, leave the same predictors, the same list of decoded MCUs and the same unread bits. -/
theorem decoded_mcus_independent_of_chunking (tabs : Nat → Option (LJT.Huff.DDerived × LJT.Huff.DDerived)) (slots : List Nat)
    (s : Array Int × List (List LJT.SeqHuff.Blk)) (cs1 cs2 : List (List Bool)) (h : cs1.flatten = cs2.flatten)
    (a1 a2 : Array Int × List (List LJT.SeqHuff.Blk)) (b1 b2 : List Bool)
    (h1 : ChunkRun (LJT.SeqHuff.mcuStep tabs slots) s [] cs1 a1 b1)
    (h2 : ChunkRun (LJT.SeqHuff.mcuStep tabs slots) s [] cs2 a2 b2) : a1 = a2 ∧ b1 = b2 :=
  LJT.Suspend.chunking_independent _ (mcu_decoder_is_stable tabs slots) s cs1 cs2 h a1 a2 b1 b2 h1 h2

/-- the same for the lossless MCU decoder (one Huffman-coded difference per component) -/
theorem lossless_mcu_decoder_is_stable (dds : List LJT.Huff.DDerived) (tblOf : List Nat) (nc : Nat) :
    Stable (LJT.SeqHuff.llMcuStep dds tblOf nc) :=
  stable_of_extends _ (fun _ => LJT.LL.decodeMcu dds tblOf nc 0) (fun st ds => st ++ [ds])
    (fun st bits => by unfold LJT.SeqHuff.llMcuStep; cases LJT.LL.decodeMcu dds tblOf nc 0 bits <;> rfl)
    (fun _ => LJT.SeqHuff.decodeMcu_append dds tblOf nc 0)

end LJT.Props.C09
