import LJT.Proofs.Nbits
import LJT.Proofs.Huff
import LJT.Proofs.HuffVals
/-!
# C19 - Generated Huffman tables are always valid, complete prefix codes

Full statement (properties.jsonl): for every symbol-frequency histogram that can arise
from an image the optimal-table generator returns a table in which every symbol with
non-zero frequency has a code of 1..16 bits, Kraft holds with one unused code point of the
longest length, symbols are listed by non-decreasing length; the encoder- and decoder-side
derived tables of any accepted table are mutual inverses; and the bit-length function
returns floor(log2 x)+1 for 1..65535 and 0 for 0.

This file holds the property theorems and their non-vacuity examples (`stdDc_sizes` and `stdDc_codes` evaluate the
standard luminance DC table for the example that follows them); helper lemmas are in `LJT/Proofs`.
-/
namespace LJT.C19

/-- **nbits clause, table form (scalar build).**  Every one of the 65536 entries of
`jpeg_nbits_table` as it stands in /repo now (regenerated into `Gen.nbitsPacked`). -/
theorem nbits_table_correct (x : Nat) (h : x < 65536) :
    nbitsTbl x = if x = 0 then 0 else Nat.log2 x + 1 :=
  nbitsTbl_correct x h

/-- **nbits clause, table linked by the SIMD build** (simd/x86_64/jchuff-sse2.asm). -/
theorem nbits_table_simd_correct (x : Nat) (h : x < 65536) :
    nbitsTblSimd x = if x = 0 then 0 else Nat.log2 x + 1 :=
  nbitsTblSimd_correct x h

/-- **nbits clause, `32 - clz` form** (`USE_CLZ_INTRINSIC`), for every 32-bit argument. -/
theorem nbits_clz_correct (x : Nat) (h : x < 2 ^ 32) :
    nbitsClz 32 x = if x = 0 then 0 else Nat.log2 x + 1 :=
  nbitsClz_eq 32 x h

/-- the specification really is "number of significant bits": `2^(n-1) ≤ x < 2^n` -/
theorem nbits_is_bit_length (x : Nat) (h0 : x ≠ 0) (h : x < 65536) :
    2 ^ (nbitsTbl x - 1) ≤ x ∧ x < 2 ^ nbitsTbl x := by
  rw [nbitsTbl_correct x h]; exact nbitsSpec_bounds x h0

-- non-vacuity: a concrete non-trivial argument
example : nbitsTbl 40000 = 16 ∧ nbitsClz 32 40000 = 16 := by decide +kernel

open LJT.Huff in
/-- **Encoder- and decoder-side derived tables are mutual inverses.**  For every table
`(bits, huffval)` accepted by both `jpeg_make_c_derived_tbl` and `jpeg_make_d_derived_tbl`
(DC or AC, lossy or lossless symbol range), every symbol `s` that has a code, and every
continuation `rest` of the bit stream: decoding the emitted code bits followed by `rest`
with the bit-sequential decoder (`jpeg_huff_decode`, Figure F.16 as coded) returns exactly
`s`, no bad-code warning, and leaves exactly `rest`. -/
theorem derived_tables_inverse (isDC lossless : Bool) (t : Tbl) (c : CDerived) (d : DDerived)
    (hc : mkCDerived isDC lossless t = some c) (hd : mkDDerived isDC lossless t = some d)
    (s : Nat) (bs : List Bool) (he : encode c s = some bs) (rest : List Bool) :
    decode d (bs ++ rest) = some (s, false, rest) :=
  decode_encode isDC lossless t c d hc hd s bs he rest

open LJT.Huff in
/-- **The code is prefix-free**: the code of one symbol is never a prefix of the code of
a different symbol (so the stream is uniquely decodable). -/
theorem codes_prefix_free (isDC lossless : Bool) (t : Tbl) (c : CDerived) (d : DDerived)
    (hc : mkCDerived isDC lossless t = some c) (hd : mkDDerived isDC lossless t = some d)
    (s1 s2 : Nat) (b1 b2 r : List Bool) (h1 : encode c s1 = some b1) (h2 : encode c s2 = some b2)
    (hp : b1 ++ r = b2) : s1 = s2 := by
  have e1 := decode_encode isDC lossless t c d hc hd s1 b1 h1 r
  have e2 := decode_encode isDC lossless t c d hc hd s2 b2 h2 []
  rw [List.append_nil, ← hp, e1] at e2
  injection e2 with e2
  exact (Prod.mk.inj e2).1

open LJT.Huff in
/-- **No code is all ones** (a code point of the longest length stays unused): whenever
`genCodes` (Figure C.2 with the validity check as coded) accepts a sorted list of code
lengths, every code `c` of length `n` satisfies `c + 1 < 2^n`. -/
theorem no_code_is_all_ones (bits : List Nat) (cs : List Nat) (h : codes bits = some cs)
    (q : Nat) (hq : q < (sizes bits).length) : cs.getD q 0 + 1 < 2 ^ (sizes bits)[q] :=
  (codes_spec h).2 q hq

-- non-vacuity: the standard luminance DC table of this tree (regenerated) is accepted by
-- both builders, so the hypotheses of the three theorems above are met by a real table.
open LJT.Huff in
theorem stdDc_sizes : sizes Gen.stdDcLumBits = [2, 3, 3, 3, 3, 3, 4, 5, 6, 7, 8, 9] := by
  decide +kernel
open LJT.Huff in
theorem stdDc_codes : codes Gen.stdDcLumBits = some [0, 2, 3, 4, 5, 6, 14, 30, 62, 126, 254, 510] := by
  rw [codes, stdDc_sizes]
  simp [genCodes]
open LJT.Huff in
example : (mkCDerived true false ⟨Gen.stdDcLumBits, Gen.stdDcLumVals⟩).isSome = true ∧
    (mkDDerived true false ⟨Gen.stdDcLumBits, Gen.stdDcLumVals⟩).isSome = true := by
  unfold mkCDerived mkDDerived
  simp only [stdDc_codes, stdDc_sizes]
  decide +kernel

open LJT.Huff in
/-- **The optimal-table generator, code lengths** (`jpeg_gen_optimal_table`, Annex K.2 as coded; the model
is tied to the real function by the `genopt` operation and by every optimised / progressive file of C04).

For every histogram `freq0` - at most 257 entries, the counts of the 256 real symbols adding up to less than
10^9 - the function either leaves through `JERR_HUFF_CLEN_OVERFLOW` (a Huffman code length above 32, which
needs Fibonacci-like counts; see the tie for the depths up to 32 the property names) or returns `bits[]` with:

* 17 entries, `bits[0] = 0` (`BitsOK.zero`), and `Σ_{l=1..16} bits[l]` = the number of symbols with a
  non-zero frequency (`count`): every such symbol gets a length in 1..16, none is dropped by the limiting step;
* no entry above 255: the `UINT8` copy-out loses nothing (`small`);
* Kraft: `Σ_l bits[l]·2^(16-l) + 2^(16-L) = 2^16` where `L` is the longest length in use (`kraft`) - the code
  is complete except for exactly one code point of the longest length, the one the pseudo-symbol 256
  reserved, so no code is all ones;
* the table passes the code-space check of `jpeg_make_c_derived_tbl` / `jpeg_make_d_derived_tbl`
  (`codes t.bits = some _`), which makes `derived_tables_inverse`, `codes_prefix_free` and
  `no_code_is_all_ones` below apply to every generated table. -/
theorem gen_optimal_table_code_lengths (freq0 : List Nat) (hlen : freq0.length ≤ 257)
    (htot : ((List.range 256).map (freq0.getD · 0)).sum < 1000000000) :
    genOptimalTable freq0 = .clenOverflow ∨
    ∃ t, genOptimalTable freq0 = .ok t ∧ t.bits.length = 17 ∧
      BitsOK (fun l => t.bits.getD l 0) (nzReal freq0).length ∧ (∃ cs, codes t.bits = some cs) :=
  GenResult.ok_or fun _ => genOptimalTable_bits htot

open LJT.Huff in
/-- **The pseudo-symbol ends on the deepest level** (what makes "skip the last symbol" in the loop that fills
`huffval[]` correct, and what reserves the all-ones code point): after the merge loop, no `codesize[]` entry
exceeds that of the last slot, which is the pseudo-symbol 256; every real symbol has a code length of at least
1; and there is one `codesize[]` entry per non-zero frequency. -/
theorem gen_optimal_pseudo_symbol_deepest (freq0 : List Nat) (hlen : freq0.length ≤ 257)
    (htot : ((List.range 256).map (freq0.getD · 0)).sum < 1000000000)
    (hno : (genCs freq0).any (· > 32) = false) :
    (genCs freq0).length = (nzReal freq0).length + 1 ∧
    (∀ c ∈ genCs freq0, c ≤ (genCs freq0).getD (nzReal freq0).length 0) ∧
    (1 ≤ (nzReal freq0).length → ∀ c ∈ genCs freq0, 1 ≤ c) :=
  have ⟨hl, hK, hmax⟩ := genCs_spec freq0 htot
  ⟨hl, hmax, fun h1 => depth_pos _ hK hl h1⟩


open LJT.Huff in
/-- **The optimal-table generator, symbol list** (`huffval[]`).  Unless the function leaves through
`JERR_HUFF_CLEN_OVERFLOW`, the list it returns has one entry per symbol with a non-zero frequency, is a
rearrangement (`Perm`) of exactly those symbols - none missing, none twice, no hole left by the skipped
pseudo-symbol - and is ordered by code length: the `k`-th such symbol (ascending symbol order) stands at
position `pos cs k`, and whenever its Huffman code length `codesize[k]` is smaller than that of the `k'`-th
symbol it stands before it.  Together with `gen_optimal_table_code_lengths` (`bits[]` sorted ascending by
construction of Figure C.1): symbols are listed in order of non-decreasing code length. -/
theorem gen_optimal_table_symbol_list (freq0 : List Nat) (hlen : freq0.length ≤ 257)
    (htot : ((List.range 256).map (freq0.getD · 0)).sum < 1000000000) :
    genOptimalTable freq0 = .clenOverflow ∨
    ∃ t, genOptimalTable freq0 = .ok t ∧ t.vals.length = (nzReal freq0).length ∧
      t.vals.Perm (nzReal freq0) ∧
      (∀ k, k < (nzReal freq0).length → pos (genCs freq0) k < (nzReal freq0).length ∧
        t.vals.getD (pos (genCs freq0) k) 0 = (nzReal freq0).getD k 0) ∧
      (∀ k k', k < (nzReal freq0).length → k' < (nzReal freq0).length →
        (genCs freq0).getD k 0 < (genCs freq0).getD k' 0 → pos (genCs freq0) k < pos (genCs freq0) k') :=
  GenResult.ok_or fun _ h =>
    have ⟨hl, hp, hk⟩ := genOptimalTable_vals htot h
    have hlt {k} (hk : k < (nzReal freq0).length) : k < (genCs freq0).length :=
      (genCs_spec freq0 htot).1 ▸ Nat.lt_succ_of_lt hk
    ⟨hl, hp, hk, fun _ _ hk hk' => pos_lt_of_cs_lt _ (hlt hk) (hlt hk')⟩


open LJT.Huff in
/-- **Every symbol with a non-zero frequency has a code of 1 to 16 bits.**  The table returned by the generator
is taken by `jpeg_make_c_derived_tbl` (no `JERR_BAD_HUFF_TABLE`: code space, symbol range, no duplicate), and
the code size `ehufsi[s]` it stores for every symbol `s` with a non-zero frequency lies in 1..16. -/
theorem gen_optimal_table_every_symbol_coded (freq0 : List Nat) (hlen : freq0.length ≤ 257)
    (htot : ((List.range 256).map (freq0.getD · 0)).sum < 1000000000) :
    genOptimalTable freq0 = .clenOverflow ∨
    ∃ t c, genOptimalTable freq0 = .ok t ∧ mkCDerived false false t = some c ∧
      ∀ s ∈ nzReal freq0, 1 ≤ c.si.getD s 0 ∧ c.si.getD s 0 ≤ 16 :=
  (GenResult.ok_or fun _ => genOptimalTable_encodes htot).imp id fun ⟨t, h, c, hc⟩ => ⟨t, c, h, hc⟩

-- non-vacuity: a histogram with a tie (the counts 1, 1) that meets the hypotheses; the kernel evaluates the model
-- from the merge loop on (the compaction of the 257-entry input is `genCs_of_pos`)
open LJT.Huff in
example : genOptimalTable [5, 1, 1, 2] =
    .ok ⟨[0, 1, 1, 1, 1, 0, 0, 0, 0, 0, 0, 0, 0, 0, 0, 0, 0], [0, 3, 1, 2]⟩ := by
  obtain ⟨hcs, hnz⟩ := genCs_of_pos [5, 1, 1, 2] (by decide) (by decide)
  rw [genOptimalTable_eq, hnz, hcs]
  decide +kernel
open LJT.Huff in
example : ([5, 1, 1, 2] : List Nat).length ≤ 257 ∧ ((List.range 256).map (([5, 1, 1, 2] : List Nat).getD · 0)).sum < 1000000000 := by
  rw [sum_getD_range _ (by decide)]
  decide

-- non-vacuity of the error exit: counts 1, 2, 3, 5, 8, ... over 34 symbols make the Huffman tree a chain of depth 34
open LJT.Huff in
example : genOptimalTable [1, 2, 3, 5, 8, 13, 21, 34, 55, 89, 144, 233, 377, 610, 987, 1597, 2584, 4181, 6765, 10946, 17711, 28657,
    46368, 75025, 121393, 196418, 317811, 514229, 832040, 1346269, 2178309, 3524578, 5702887, 9227465] = .clenOverflow := by
  rw [genOptimalTable_eq, if_pos]
  rw [(genCs_of_pos _ _ _).1]
  · decide +kernel
  · decide
  · decide

end LJT.C19
