import LJT.Proofs.DCT
/-! # C07 - lossy round-trip error is bounded by the quantisation steps

Property theorems about `LJT.DCT` (Model/DCT.lean), the model of the accurate-integer-DCT
sample path for components that are neither subsampled nor colour-converted.  The general
per-block RMS clause is decided on the real codec by the harness oracle; proved here are its
ingredients and the constant-image clause. -/
namespace LJT.Props.C07
open LJT.DCT

/-- **Quantisation is rounding to nearest (8-bit samples, reciprocal method).**  For both word
sizes of `DCTELEM` (any `W ≥ 16`), every positive divisor - including those above 16 bits that
16-bit tables produce - and every coefficient of magnitude below 2^15, the
multiply-by-reciprocal quantiser of `compute_reciprocal`/`quantize` returns
`sign(w) * floor((|w| + d/2) / d)`. -/
theorem quant_is_round_nearest (W d : Nat) (w : Int) (hW : 16 ≤ W) (hd : 0 < d) (hw : w.natAbs < 32768) :
    quantize8 W d w = roundDiv d w := quantize8_round W d w hW hd hw

/-- the same for the division path used with 12-bit samples (`DIVIDE_BY`) -/
theorem quant12_is_round_nearest (d : Nat) (w : Int) (hd : 0 < d) :
    quantize12 d w = roundDiv d w := quantize12_round d w

/-- **The quantisation error of a coefficient is at most half a step**: with `d = 8 q` the
divisor and `Q` the quantised value, `|w - d Q| ≤ d / 2`. -/
theorem quant_error_le_half_step (prec W q : Nat) (w : Int) (hW : 16 ≤ W) (hq : 1 ≤ q)
    (hw : prec ≤ 8 → w.natAbs < 32768) :
    (w - ((q * 8 : Nat) : Int) * quantizeCoef prec W q w).natAbs ≤ q * 8 / 2 := by
  rw [quantizeCoef_round prec W q w hW hq hw]
  obtain ⟨h1, h2, -⟩ := roundDiv_err (q * 8) (by omega) w
  omega

/-- **Range limiting is the clamp** on everything the IDCT can deliver for a valid stream
(`[-2(MAX+1), 2(MAX+1))` before the level shift) -/
theorem range_limit_is_clamp (prec : Nat) (z : Int)
    (h1 : - (2 * (maxSample prec + 1)) ≤ z) (h2 : z < 2 * (maxSample prec + 1)) :
    rangeLimit prec z = max 0 (min (maxSample prec) (z + center prec)) := rangeLimit_clamp prec z h1 h2

/-- ... and therefore a projection: it never moves a value away from an in-range sample -/
theorem range_limit_projection (prec : Nat) (z x : Int)
    (h1 : - (2 * (maxSample prec + 1)) ≤ z) (h2 : z < 2 * (maxSample prec + 1))
    (hx0 : 0 ≤ x) (hx1 : x ≤ maxSample prec) :
    (rangeLimit prec z - x).natAbs ≤ (z + center prec - x).natAbs := by
  rw [rangeLimit_clamp prec z h1 h2]
  clear h1 h2
  omega

/-- **The zero-AC shortcuts of `jpeg_idct_islow` are exact**: when the AC terms of a column
(resp. of a workspace row) vanish, the general butterfly returns what the shortcut returns. -/
theorem idct_shortcuts_exact (P : Nat) (hP : P = 1 ∨ P = 2) (c0 q0 q1 q2 q3 q4 q5 q6 q7 w0 : Int) :
    idctColGen P [c0, 0, 0, 0, 0, 0, 0, 0] [q0, q1, q2, q3, q4, q5, q6, q7] = idctCol P [c0, 0, 0, 0, 0, 0, 0, 0] [q0, q1, q2, q3, q4, q5, q6, q7]
    ∧ idctRowGen P [w0, 0, 0, 0, 0, 0, 0, 0] = idctRow P [w0, 0, 0, 0, 0, 0, 0, 0] :=
  ⟨(idctColGen_dc P hP ..).trans (idctCol_dc ..).symm, (idctRowGen_dc P hP w0).trans (idctRow_dc P w0).symm⟩

/-- the forward DCT of a constant block has the single coefficient `64 x` (8 x the true DC) -/
theorem fdct_of_constant (P : Nat) (hP : P = 1 ∨ P = 2) (x : Int) :
    fdctIslow P (List.replicate 64 x) = (64 * x) :: List.replicate 63 0 := fdctIslow_const P hP x

/-- **Constant images.**  For 8- and 12-bit samples, both word sizes, every quantisation table
with entries ≥ 1 (no upper limit) and every in-range sample value `v`: each sample of the
decoded constant block is within `ceil(q0 / 16) + 1` of `v`.  (The hypothesis on `prec` is not used:
the model treats every precision up to 8 as 8 and every other as 12, see `constant_block_bound`.) -/
theorem constant_image_bound (prec W : Nat) (hprec : prec = 8 ∨ prec = 12) (hW : 16 ≤ W) (q : List Nat)
    (hne : q ≠ []) (hpos : ∀ k, 1 ≤ q.getD k 1) (v : Int) (hv0 : 0 ≤ v) (hv1 : v ≤ maxSample prec) :
    ∀ y ∈ roundtripBlock prec W q (List.replicate 64 v), (y - v).natAbs ≤ (q.getD 0 1 + 15) / 16 + 1 :=
  constant_block_bound prec W hW q hne hpos v hv0 hv1

/-- non-vacuity: a concrete table and value meet the hypotheses -/
example : (∀ k, 1 ≤ ([40, 3, 7] : List Nat).getD k 1) ∧ ([40, 3, 7] : List Nat) ≠ [] ∧ (0 : Int) ≤ 201 ∧ (201 : Int) ≤ maxSample 8 := by
  refine ⟨?_, by simp, by omega, by simp [maxSample]⟩
  intro k
  match k with
  | 0 => simp
  | 1 => simp
  | 2 => simp
  | n + 3 => simp
example : quantize8 16 24 100 = 4 ∧ roundDiv 24 100 = 4 ∧ quantize8 32 262136 (-8192) = 0 := by decide

end LJT.Props.C07
