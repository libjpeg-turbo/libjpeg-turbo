import LJT.Model.SeqHuff
import LJT.Proofs.Lossless
import LJT.Proofs.Bits
/-! Round trip of the AC coefficients of the sequential Huffman block coder: a run of ZRL symbols and a (run, size)
symbol with its extra bits are steps of the AC decoder in front of a rest that decodes.  The block and the restart
interval built on it stand under their statements in Props/C03; what those speak of (`DiffsOK`, `TabsOK`,
`decodeIntervals`) is defined here.  Beside the round trip, what the AC decoder does with arbitrary bits
(`decodeAC_reads`): it decodes a prefix of at most 31 bits per coefficient and delivers exactly the coefficients asked
for (C01, C09). -/
namespace LJT.SeqHuff
open LJT.Huff LJT.LL

theorem encodeBlock_some {cdc cac : CDerived} {diff : Int} {ac : List Int} {bits : List Bool}
    (h : encodeBlock cdc cac diff ac = some bits) :
    ∃ d a, itemBits cdc diff = some d ∧ encodeAC cac 0 ac = some a ∧ bits = d ++ a := by
  unfold encodeBlock at h
  split at h
  · rename_i d a h1 h2
    exact ⟨d, a, h1, h2, (Option.some.inj h).symm⟩
  · cases h

/-- the two fields of an AC symbol `RRRRSSSS` -/
theorem sym_run (run n : Nat) (h : n < 16) : (run * 16 + n) / 16 = run := by
  rw [Nat.add_comm, Nat.add_mul_div_right _ _ (by decide : 0 < 16), Nat.div_eq_of_lt h, Nat.zero_add]
theorem sym_size (run n : Nat) (h : n < 16) : (run * 16 + n) % 16 = n := by
  rw [Nat.add_comm, Nat.add_mul_mod_self_right, Nat.mod_eq_of_lt h]

/-- a coefficient behind `r` zeros is `r / 16` ZRLs and a symbol with run `r % 16`: the positions they cover -/
theorem run_split (r m : Nat) : r % 16 + 1 + m + 16 * (r / 16) = r + (m + 1) := by omega

section
variable (t : Tbl) (c : CDerived) (dd : DDerived)
  (hc : mkCDerived false false t = some c) (hd : mkDDerived false false t = some dd)
include hc hd

theorem zrl_decode {fuel m : Nat} {X b : List Bool} {l : List Int} (h : decodeAC dd fuel m X = some (l, b)) (n : Nat) :
    ∀ z, zrlBits c n = some z →
      decodeAC dd (fuel + n) (m + 16 * n) (z ++ X) = some (List.replicate (16 * n) 0 ++ l, b) := by
  fun_induction zrlBits c n with
  | case1 =>
    intro z hz
    cases hz
    exact h
  | case2 k zb zr hr he ih =>
    intro z hz
    cases hz
    rw [Nat.mul_succ, ← Nat.add_assoc, Nat.add_succ, decodeAC, if_neg (Nat.succ_ne_zero _), List.append_assoc,
      decode_encode false false t c dd hc hd 0xF0 zb he]
    simp only [Nat.reduceDiv, Nat.reduceMod, ne_eq, not_true_eq_false, if_false, if_true]
    rw [if_neg (Nat.not_lt.2 (Nat.le_add_left _ _)), Nat.add_sub_cancel, ih zr hr, Nat.add_comm (16 * k),
      ← List.replicate_append_replicate, List.append_assoc]
  | case3 => exact fun _ hz => nomatch hz

theorem decodeAC_runsize {q f rem : Nat} {v : Int} {s X b : List Bool} {l : List Int} (hv0 : v ≠ 0)
    (hv : v.natAbs < 32768) (hs : encode c (q * 16 + (category v).1) = some s) (h : decodeAC dd f rem X = some (l, b)) :
    decodeAC dd (f + 1) (q + 1 + rem) (s ++ (natBits (category v).2.1 (category v).2.2 ++ X)) =
      some (List.replicate q 0 ++ v :: l, b) := by
  obtain ⟨h0, hn16, hnex, hex, hext⟩ := category_exact v hv0 hv
  obtain ⟨r1, r2, r3⟩ := natBits_read hex X
  rw [decodeAC, if_neg (Nat.ne_of_gt (Nat.lt_of_lt_of_le (Nat.succ_pos q) (Nat.le_add_right _ _))),
    decode_encode false false t c dd hc hd _ s hs]
  simp only [sym_run q _ hn16, sym_size q _ hn16]
  rw [if_pos h0, if_neg (Nat.not_lt.2 (Nat.le_add_right _ _)), hnex, if_neg r1, r2, r3, Nat.sub_sub,
    Nat.add_sub_cancel_left, h, hext]

theorem decodeAC_encodeAC :
    ∀ (ac : List Int) (r fuel : Nat) (bits rest : List Bool), (∀ v ∈ ac, v.natAbs < 32768) →
      encodeAC c r ac = some bits → r + ac.length < fuel →
      decodeAC dd fuel (r + ac.length) (bits ++ rest) = some (List.replicate r 0 ++ ac, rest) := by
  intro ac r
  fun_induction encodeAC c r ac with
  -- the block ends on a coefficient: nothing is written
  | case1 =>
    intro fuel bits rest _ he _
    cases he
    cases fuel <;> simp [decodeAC]
  -- zeros pending at the end of the block: EOB
  | case2 r hr =>
    intro fuel bits rest _ he hf
    obtain ⟨f, rfl⟩ := Nat.exists_eq_add_one_of_ne_zero (Nat.ne_zero_of_lt hf)
    rw [decodeAC]
    simp only [List.length_nil, Nat.add_zero, hr, if_false, decode_encode false false t c dd hc hd 0 bits he rest,
      Nat.zero_div, Nat.zero_mod, ne_eq, not_true_eq_false, show ¬ ((0 : Nat) = 15) by decide, if_true, List.append_nil]
  -- a zero: one more pending
  | case3 r tl ih =>
    intro fuel bits rest hv he hf
    have e : r + (0 :: tl).length = r + 1 + tl.length := by rw [List.length_cons, Nat.add_assoc, Nat.add_comm 1]
    rw [e] at hf ⊢
    rw [ih fuel bits rest (fun x hx => hv x (List.mem_cons_of_mem _ hx)) he hf, rep_snoc]
  -- a coefficient behind `r` zeros: `r / 16` ZRLs, then the symbol (`r % 16`, size) with its extra bits, then the rest
  | case4 r v tl hv0 cat z s tb hrest hs hz ih =>
    intro fuel bits rest hv he hf
    cases he
    rw [List.length_cons] at hf ⊢
    obtain ⟨f1, rfl⟩ : ∃ f1, fuel = f1 + 1 + r / 16 := ⟨fuel - 1 - r / 16, by omega⟩
    have hih := ih f1 tb rest (fun x hx => hv x (List.mem_cons_of_mem _ hx)) hrest (by omega)
    rw [Nat.zero_add, List.replicate_zero, List.nil_append] at hih
    rw [← run_split r tl.length, List.append_assoc, List.append_assoc, List.append_assoc,
      zrl_decode t c dd hc hd (decodeAC_runsize t c dd hc hd hv0 (hv v (List.mem_cons_self ..)) hs hih) (r / 16) z hz,
      ← List.append_assoc, List.replicate_append_replicate, Nat.div_add_mod]
  | case5 => exact fun _ _ _ _ he => nomatch he

end

/-- every symbol takes at most 16 bits and its extra bits at most 15, and advances by at least one coefficient -/
theorem decodeAC_reads (dd : DDerived) (fuel rem : Nat) (bits : List Bool) : ∀ (l : List Int) (rest : List Bool),
    decodeAC dd fuel rem bits = some (l, rest) →
    (∀ e, decodeAC dd fuel rem (bits ++ e) = some (l, rest ++ e)) ∧
      l.length = rem ∧ bits.length ≤ rest.length + 31 * rem := by
  fun_induction decodeAC dd fuel rem bits with
  -- no coefficient left, without or with fuel
  | case1 | case3 =>
    intro l rest h
    cases h
    exact ⟨fun e => by rw [decodeAC, if_pos rfl], rfl, Nat.le_add_right _ _⟩
  -- a (run, size) symbol with `n` extra bits
  | case9 f rem bits h0 s r hd q n hn hr hlen l' b hrec ih =>
    intro l rest h
    cases h
    obtain ⟨d1, d2⟩ := decode_reads dd bits s false r hd
    obtain ⟨d3, _⟩ := d2 rfl
    obtain ⟨r1, r2, r3⟩ := ih _ _ hrec
    have hn16 : n < 16 := Nat.mod_lt _ (by decide)
    have hs : n ≤ r.length := Nat.le_of_not_lt hlen
    rw [List.length_drop] at r3
    refine ⟨fun e => ?_, ?_, by omega⟩
    · rw [decodeAC, if_neg h0, d1 e]
      dsimp only
      rw [if_pos hn, if_neg hr,
        if_neg (by rw [List.length_append]; exact Nat.not_lt.2 (Nat.le_trans hs (Nat.le_add_right _ _))),
        List.take_append_of_le_length hs, List.drop_append_of_le_length hs, r1]
    · simp only [List.length_append, List.length_replicate, List.length_cons]
      omega
  -- ZRL
  | case12 f rem bits h0 s r hd q n hn h15 h16 l' b hrec ih =>
    intro l rest h
    cases h
    obtain ⟨d1, d2⟩ := decode_reads dd bits s false r hd
    obtain ⟨d3, _⟩ := d2 rfl
    obtain ⟨r1, r2, r3⟩ := ih _ _ hrec
    refine ⟨fun e => ?_, ?_, by omega⟩
    · rw [decodeAC, if_neg h0, d1 e]
      dsimp only
      rw [if_neg hn, if_pos h15, if_neg h16, r1]
    · rw [List.length_append, List.length_replicate]
      omega
  -- EOB
  | case13 f rem bits h0 s r hd q n hn h15 hz =>
    intro l rest h
    cases h
    obtain ⟨d1, d2⟩ := decode_reads dd bits s false r hd
    obtain ⟨d3, _⟩ := d2 rfl
    refine ⟨fun e => ?_, List.length_replicate, ?_⟩
    · rw [decodeAC, if_neg h0, d1 e]
      dsimp only
      rw [if_neg hn, if_neg h15, if_pos hz]
    · exact Nat.le_trans d3 (Nat.add_le_add_left
        (Nat.le_trans (by decide : 16 ≤ 31 * 1) (Nat.mul_le_mul_left 31 (Nat.pos_of_ne_zero h0))) _)
  -- the other branches fail
  | _ => exact fun _ _ h => nomatch h

open LJT.Bits

/-- the DC differences the encoder forms stay inside the range the block coder accepts -/
def DiffsOK : Array Int → List Blk → Prop
  | _, [] => True
  | pred, b :: rest => (b.dc - pred.getD b.slot 0).natAbs < 32768 ∧ DiffsOK (pred.setIfInBounds b.slot b.dc) rest

/-- encoder and decoder tables of every slot are derived from one table pair -/
def TabsOK (ct : Nat → Option (CDerived × CDerived)) (dt : Nat → Option (DDerived × DDerived)) (slot : Nat) : Prop :=
  ∀ cdc cac, ct slot = some (cdc, cac) → ∃ tdc tac ddc dac, dt slot = some (ddc, dac) ∧
    mkCDerived true false tdc = some cdc ∧ mkDDerived true false tdc = some ddc ∧
    mkCDerived false false tac = some cac ∧ mkDDerived false false tac = some dac

/-- decode every restart interval of a scan: the blocks of interval `k` (component slots `slotss[k]`) from the
bytes of interval `k`, with the DC predictors (`last_dc_val[MAX_COMPS_IN_SCAN]`, four of them) at 0 at its start -/
def decodeIntervals (dt : Nat → Option (DDerived × DDerived)) : List (List Nat) → List (List Nat) → Option (List (List Blk))
  | [], [] => some []
  | slots :: ss, seg :: segs =>
    match decodeBlocks dt (Array.replicate 4 0) slots (segmentBits seg), decodeIntervals dt ss segs with
    | some (blocks, _), some rest => some (blocks :: rest)
    | _, _ => none
  | _, _ => none

end LJT.SeqHuff
