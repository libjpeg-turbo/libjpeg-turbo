import LJT.Model.Dest
/-! The destination managers (C13).  Everything a successful write does to the manager state is
collected in one relation, `Wrote`, which is reflexive and transitive; `putByte` establishes it and the
direct block store leaves what byte-wise output leaves (`putBlock_eq`), so every sequence of client
operations does. -/
namespace LJT.Dest

/-- ownership invariant for one image: everything the manager may free (`lib`) or has
freed (`frees`) was allocated after the image started (`id > lo`) or is the buffer the
caller handed back (`hb`). -/
def Owns (lo : Nat) (hb : Option Nat) (s : State) : Prop :=
  lo ≤ s.nalloc ∧ (∀ id, s.lib = some id → lo < id ∨ hb = some id) ∧
  (∀ id, id ∈ s.frees → lo < id ∨ hb = some id)

/-- `s'` is `s` after the client has successfully written the bytes `w` -/
structure Wrote (s s' : State) (w : List Nat) : Prop where
  rdata : s'.rdata = w.reverse ++ s.rdata
  alloc : s'.alloc = s.alloc
  cap : s.cap ≤ s'.cap
  good : Good s → Good s'
  fixed : s.alloc = false → s'.cap = s.cap ∧ s'.bufId = s.bufId
  owns : ∀ lo hb, Owns lo hb s → Owns lo hb s'

theorem Wrote.refl (s : State) : Wrote s s [] :=
  ⟨rfl, rfl, Nat.le_refl _, id, fun _ => ⟨rfl, rfl⟩, fun _ _ => id⟩

theorem Wrote.trans {s s1 s2 : State} {w1 w2 : List Nat} (h1 : Wrote s s1 w1) (h2 : Wrote s1 s2 w2) :
    Wrote s s2 (w1 ++ w2) where
  rdata := by rw [h2.rdata, h1.rdata, List.reverse_append, List.append_assoc]
  alloc := h2.alloc.trans h1.alloc
  cap := Nat.le_trans h1.cap h2.cap
  good := h2.good ∘ h1.good
  fixed := fun ha =>
    have f1 := h1.fixed ha
    have f2 := h2.fixed (h1.alloc.trans ha)
    ⟨f2.1.trans f1.1, f2.2.trans f1.2⟩
  owns := fun lo hb => h2.owns lo hb ∘ h1.owns lo hb

theorem Wrote.foldlM {α : Type} (step : State → α → Except Err State) (payload : α → List Nat)
    (hstep : ∀ s a s', step s a = .ok s' → Wrote s s' (payload a)) (l : List α) (s s' : State)
    (h : l.foldlM step s = .ok s') : Wrote s s' (l.map payload).flatten := by
  induction l generalizing s with
  | nil => cases h; exact Wrote.refl _
  | cons a l ih =>
    rw [List.foldlM_cons] at h
    cases h1 : step s a with
    | error e => rw [h1] at h; cases h
    | ok s1 => rw [h1] at h; exact (hstep s a s1 h1).trans (ih s1 h)

/-- `emit_byte`, with or without the call of `empty_output_buffer` -/
theorem putByte_wrote (s : State) (b : Nat) (s' : State) (h : putByte s b = .ok s') : Wrote s s' [b] := by
  revert h
  -- `s1` is the state with the byte stored
  fun_cases putByte s b with
  | case1 s1 hfull =>
    -- the buffer became full: `grow` doubles it (only if it may) and frees what the manager had allocated before
    fun_cases grow s1 with
    | case1 ha =>
      rintro ⟨⟩
      refine ⟨rfl, rfl, Nat.le_mul_of_pos_right _ (by decide), ?_, fun hf => absurd (hf.symm.trans ha) Bool.false_ne_true, ?_⟩
      · intro ⟨hf, hsum⟩
        simp only [Good, s1, List.length_cons] at hfull hsum ⊢
        omega
      · intro lo hb ⟨h1, h2, h3⟩
        refine ⟨Nat.le_succ_of_le h1, fun id hid => .inl ?_, fun id hid => ?_⟩
        · cases hid
          exact Nat.lt_succ_of_le h1
        · simp only [List.mem_append, Option.mem_toList] at hid
          exact hid.elim (h3 id) (h2 id)
    | case2 => nofun
  | case2 s1 hnf =>
    intro h
    obtain rfl := Except.ok.inj h
    refine ⟨rfl, rfl, Nat.le_refl _, fun ⟨_, hsum⟩ => ?_, fun _ => ⟨rfl, rfl⟩, fun _ _ => id⟩
    simp only [Good, s1, List.length_cons] at hnf hsum ⊢
    omega

theorem putBytes_wrote (s s' : State) (bs : List Nat) (h : putBytes s bs = .ok s') : Wrote s s' bs := by
  have := Wrote.foldlM putByte (fun b => [b]) putByte_wrote bs s s' h
  rwa [← List.flatMap_def, List.flatMap_singleton'] at this

theorem putBytes_store (s : State) (bs : List Nat) (h : bs.length < s.free) :
    putBytes s bs = .ok { s with rdata := bs.reverse ++ s.rdata, free := s.free - bs.length } := by
  induction bs generalizing s with
  | nil => rfl
  | cons b bs ih =>
    rw [List.length_cons] at h
    rw [putBytes, List.foldlM_cons, putByte, if_neg (Nat.sub_ne_zero_of_lt (Nat.lt_of_le_of_lt (Nat.le_add_left 1 _) h))]
    refine (ih _ (Nat.lt_sub_of_add_lt h)).trans ?_
    simp only [List.reverse_cons, List.append_assoc, List.singleton_append, List.length_cons, Nat.sub_sub, Nat.add_comm]

/-- the direct block store is a short cut: it leaves the state that byte-wise output leaves -/
theorem putBlock_eq (s : State) (bs : List Nat) : putBlock s bs = putBytes s bs := by
  unfold putBlock
  split
  · rename_i hc
    exact (putBytes_store s bs (Nat.lt_of_lt_of_le hc.2 hc.1)).symm
  · rfl

theorem putBlock_wrote (s s' : State) (bs : List Nat) (h : putBlock s bs = .ok s') : Wrote s s' bs :=
  putBytes_wrote s s' bs (putBlock_eq s bs ▸ h)

theorem putByte_alloc (s : State) (b : Nat) (ha : s.alloc = true) : ∃ s', putByte s b = .ok s' := by
  unfold putByte grow
  simp only [ha, if_true]
  split <;> exact ⟨_, rfl⟩

/-- the buffer the caller handed back to `start` (only for `.reuse`): the `hb` of `Owns` -/
def handedBack (ob : OutBuf) (prev : Option State) : Option Nat :=
  match ob, prev with
  | .reuse _, some p => some p.bufId
  | _, _ => none

/-- allocations made before this image: the `lo` of `Owns` -/
def allocBefore (prev : Option State) : Nat := match prev with | some p => p.nalloc | none => 0

/-- what `start` hands over: an empty buffer, of positive capacity if the previous one was, and nothing to free but a
buffer it has just allocated or the buffer handed back -/
theorem start_spec (kind : Kind) (alloc : Bool) (ob : OutBuf) (prev : Option State) (s : State)
    (h : start kind alloc ob prev = .ok s) :
    s.rdata = [] ∧ s.free = s.cap ∧ ((∀ p, prev = some p → 0 < p.cap) → 0 < s.cap) ∧
      Owns (allocBefore prev) (handedBack ob prev) s := by
  revert h
  -- one case per exit of `start`; a case binds the `let`s that are in scope there, then the outcome of the test on `needNew`
  fun_cases start kind alloc ob prev with
  | case1 =>
    rintro ⟨⟩
    exact ⟨rfl, rfl, fun _ => (by decide : 0 < OUTPUT_BUF_SIZE), Nat.le_succ _, fun id hid => .inl (by cases hid; exact Nat.lt_succ_self _), nofun⟩
  | case2 | case6 => nofun
  | case3 a d p reused lib c n reusedNow needNew hnew =>
    rintro ⟨⟩
    refine ⟨rfl, rfl, fun hp => ?_, Nat.le_refl _, fun id hid => .inr ?_, nofun⟩
    · simp only [c]
      split
      · exact hp p rfl
      · rename_i hr
        simp only [needNew, reusedNow, reused, Bool.not_eq_true] at hnew hr
        simp only [hr, Bool.not_false, Bool.and_true, beq_eq_false_iff_ne, ne_eq] at hnew
        exact Nat.pos_of_ne_zero hnew
    · simp only [lib] at hid
      split at hid
      · rename_i hc
        simp only [Bool.and_eq_true, beq_iff_eq] at hc
        exact hc.2.symm.trans hid
      · cases hid
  | case4 | case5 =>
    -- the caller's buffer with its declared size `d`, which is not 0 since `needNew` is false
    rintro ⟨⟩
    rename_i d _ _ _ hnew
    refine ⟨rfl, rfl, fun _ => Nat.pos_of_ne_zero fun h0 => hnew ?_, Nat.le_refl _, nofun, nofun⟩
    subst h0
    rfl
end LJT.Dest
