import LJT.Model.Mem
/-! The usage counter of the memory manager equals the sizes of the live blocks (`Inv`, C14): the sum
over a list splits along any key (`sumSizes_split`), which is what releasing a pool or a block takes
away from both sides. -/
namespace LJT.Mem

theorem sumSizes_cons (b : Blk) (l : List Blk) : sumSizes (b :: l) = b.size + sumSizes l := by
  simp only [sumSizes, ← List.sum_eq_foldl, List.map_cons, List.sum_cons]

theorem sumSizes_split (l : List Blk) (key : Blk → Nat) (v : Nat) :
    sumSizes l = sumSizes (l.filter (fun b => decide (key b = v))) + sumSizes (l.filter (fun b => decide (key b ≠ v))) := by
  induction l with
  | nil => rfl
  | cons b t ih =>
    simp only [List.filter_cons]
    by_cases hp : key b = v <;> simp [hp, sumSizes_cons, ih] <;> omega

theorem mem_freePool {s : State} {pool : Nat} {b : Blk} : b ∈ (freePool s pool).live ↔ b ∈ s.live ∧ b.pool ≠ pool := by
  simp only [freePool, List.mem_filter, decide_eq_true_eq]

end LJT.Mem
