import LJT.Model.Transform
import LJT.Proofs.ListAux
/-! The algebra of the three block operations of the lossless transforms (C06): transposition, sign change of the odd
columns, sign change of the odd rows.  Each is a map over the 64 positions, so each law is an equation between entries
(`map_congr_left`, `map_range_eq`) and arithmetic on the position.  `applyFull`: an operation on a grid of whole iMCUs. -/
namespace LJT.Xform
open LJT.LL (getD_map_range map_range_eq)

def IsBlock (b : Block) : Prop := b.length = 64

/-- position `k = row * 8 + col` transposed: it stays inside the block, its column is the row of `k`, its row the
column of `k` -/
theorem tr_index {k : Nat} (hk : k < 64) :
    k % 8 * 8 + k / 8 < 64 ∧ (k % 8 * 8 + k / 8) % 8 = k / 8 ∧ (k % 8 * 8 + k / 8) / 8 = k % 8 := by
  omega

/-- transposing a table of 64 entries twice gives it back (coefficient blocks and quantisation tables) -/
theorem transpose_transpose {α : Type} (l : List α) (d : α) (hl : l.length = 64) :
    (List.range 64).map (fun k => ((List.range 64).map (fun j => l.getD ((j % 8) * 8 + j / 8) d)).getD ((k % 8) * 8 + k / 8) d)
      = l := by
  refine map_range_eq l d hl _ fun k hk => ?_
  obtain ⟨hlt, hcol, hrow⟩ := tr_index hk
  rw [getD_map_range _ hlt d, hcol, hrow, Nat.div_add_mod']

theorem trB_isBlock (b : Block) : IsBlock (trB b) := by simp [IsBlock, trB]
theorem negCols_isBlock (b : Block) : IsBlock (negCols b) := by simp [IsBlock, negCols]
theorem negRows_isBlock (b : Block) : IsBlock (negRows b) := by simp [IsBlock, negRows]

theorem trB_trB (b : Block) (hb : IsBlock b) : trB (trB b) = b := transpose_transpose b 0 hb

theorem negCols_negCols (b : Block) (hb : IsBlock b) : negCols (negCols b) = b := by
  refine map_range_eq b 0 hb _ fun k hk => ?_
  rw [negCols, getD_map_range _ hk 0]
  split <;> simp

theorem negRows_negRows (b : Block) (hb : IsBlock b) : negRows (negRows b) = b := by
  refine map_range_eq b 0 hb _ fun k hk => ?_
  rw [negRows, getD_map_range _ hk 0]
  split <;> simp

theorem trB_negCols (b : Block) : trB (negCols b) = negRows (trB b) := by
  unfold trB negCols negRows
  refine List.map_congr_left fun k hk => ?_
  rw [List.mem_range] at hk
  rw [getD_map_range _ (tr_index hk).1 0, getD_map_range _ hk 0, (tr_index hk).2.1]

theorem trB_negRows (b : Block) : trB (negRows b) = negCols (trB b) := by
  unfold trB negCols negRows
  refine List.map_congr_left fun k hk => ?_
  rw [List.mem_range] at hk
  rw [getD_map_range _ (tr_index hk).1 0, getD_map_range _ hk 0, (tr_index hk).2.2]

theorem negCols_negRows (b : Block) : negCols (negRows b) = negRows (negCols b) := by
  unfold negCols negRows
  refine List.map_congr_left fun k hk => ?_
  rw [List.mem_range] at hk
  rw [getD_map_range _ hk 0, getD_map_range _ hk 0]
  split <;> split <;> simp

/-- the mirrored position `a - 1 - x` inside an extent of `a` blocks -/
theorem mirror_lt {a x : Nat} (h : x < a) : a - 1 - x < a :=
  Nat.lt_of_le_of_lt (Nat.sub_le _ _) (Nat.sub_lt (Nat.zero_lt_of_lt h) Nat.one_pos)

theorem mirror_mirror {a x : Nat} (h : x < a) : a - 1 - (a - 1 - x) = x :=
  Nat.sub_sub_self (Nat.le_sub_one_of_lt h)

/-- an operation applied to a grid made of whole iMCUs, without crop or trim -/
def applyFull (op : Op) (g : Grid) : Grid :=
  let dh := if op.swaps then g.wb else g.hb
  let dw := if op.swaps then g.hb else g.wb
  ⟨dh, dw, moveBlock op g.at_ dw dh 0 0⟩

end LJT.Xform
