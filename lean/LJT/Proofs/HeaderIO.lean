import LJT.Model.HeaderIO
/-! Header fields survive the trip through the marker writer and the marker reader. -/
namespace LJT.HeaderIO
open LJT.Gen

theorem lo4 (x : Nat) : x &&& 15 = x % 16 := by
  rw [show (15 : Nat) = 2 ^ 4 - 1 by rfl, Nat.and_two_pow_sub_one_eq_mod]

theorem hi4 (x : Nat) : (x >>> 4) &&& 15 = (x / 16) % 16 := by
  rw [Nat.shiftRight_eq_div_pow, lo4]

/-- two 4-bit fields packed into one byte (`(a << 4) + b`) are read back by shift and mask -/
theorem nib (a b : Nat) (ha : a < 16) (hb : b < 16) :
    (byte ((a <<< 4) + b) >>> 4) &&& 15 = a ∧ byte ((a <<< 4) + b) &&& 15 = b := by
  rw [hi4, lo4, Nat.shiftLeft_eq, byte]
  omega

/-- a 16-bit field written as two bytes (`emit2`) is read back by shift and mask -/
theorem join2 (x : Nat) (h : x < 65536) : (((x >>> 8) &&& 0xFF) <<< 8) + (x &&& 0xFF) = x := by
  rw [Nat.shiftRight_eq_div_pow, Nat.shiftLeft_eq, show (0xFF : Nat) = 2 ^ 8 - 1 by rfl, Nat.and_two_pow_sub_one_eq_mod,
    Nat.and_two_pow_sub_one_eq_mod]
  omega

/-- whatever save limit the application gave, the reader sees the 14 bytes of a JFIF APP0 and the 12 bytes
of an Adobe APP14 payload: a limit below what the library needs is raised to it (`saveLimit`) -/
theorem examinedLen_app (limit : Nat) : examinedLen 0xE0 limit 14 = 14 ∧ examinedLen 0xEE limit 12 = 12 := by
  unfold examinedLen Header.saveLimit
  simp only [APP0_DATA_LEN, APP14_DATA_LEN]
  by_cases h0 : limit = 0
  · simp [h0]
  · by_cases h12 : limit < 12
    · simp [h0, h12, show limit < 14 by omega]
    · by_cases h14 : limit < 14
      · simp [h0, h12, h14]
        omega
      · simp [h0, h12, h14]
        omega

theorem parseComps_roundtrip (cs : List CompInfo) (h : ∀ c ∈ cs, c.id < 256 ∧ c.h < 16 ∧ c.v < 16 ∧ c.tq < 256) :
    parseComps cs.length (cs.flatMap (fun c => [byte c.id, byte ((c.h <<< 4) + c.v), byte c.tq])) = some cs := by
  induction cs with
  | nil => rfl
  | cons c cs ih =>
    obtain ⟨a1, a2, a3, a4⟩ := h c (by simp)
    simp only [List.flatMap_cons, List.cons_append, List.nil_append, List.length_cons, parseComps]
    rw [ih (fun x hx => h x (by simp [hx]))]
    simp only [Option.map_some, nib _ _ a2 a3]
    simp only [byte, Nat.mod_eq_of_lt a1, Nat.mod_eq_of_lt a4]

end LJT.HeaderIO
