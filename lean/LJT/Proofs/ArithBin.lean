import LJT.Model.ArithBin
import LJT.Proofs.ProgRef
/-! The binarisation of coefficients for arithmetic coding is inverted exactly (C03): the decision
lists of the encoder side of `Model/ArithBin.lean` (src/jcarith.c), fed in order to the decoder side
(src/jdarith.c as the reader runs it), give back the coefficients; the decoder asks for exactly the
statistics bins the encoder used, in the same order, and consumes exactly the decisions of the
block.  The QM coder itself is the channel: it is modelled (Model/Arith.lean, Model/ArithEnc.lean)
and tied to libjpeg-turbo in both directions, not proved. -/
namespace LJT.ArithBin
open LJT.Arith (dcBase acBase fixedBin)
open LJT.ProgAC (log2_split)

/-- a list of decisions as a source: the decoder must ask for the bin the encoder used; a wrong
bin or an exhausted list sets the flag -/
def lsrc : Src (List Dn × Bool) :=
  ⟨fun s st => match s.1 with
    | [] => (0, ([], true))
    | d :: t => if d.1 = st then (d.2, (t, s.2)) else (0, (t, true))⟩

@[simp] theorem lsrc_next (st v : Nat) (t : List Dn) (f : Bool) : lsrc.next ((st, v) :: t, f) st = (v, (t, f)) := by
  simp [lsrc]

/-- `n` ones and a zero in consecutive bins, the unary part of a magnitude category: the category
doubles from `m` up to `m * 2 ^ n = 2 ^ e` -/
theorem magUnary_ones (e : Nat) (he : e < 15) : ∀ (n fuel m st : Nat) (rest : List Dn) (f : Bool), n < fuel → m * 2 ^ n = 2 ^ e →
    magUnary lsrc fuel m st ((List.range n).map (fun i => (st + i, 1)) ++ (st + n, 0) :: rest, f) =
      some (2 ^ e, st + n, (rest, f)) := by
  intro n
  induction n with
  | zero =>
    intro fuel m st rest f hf hm
    obtain ⟨g, rfl⟩ : ∃ g, fuel = g + 1 := ⟨fuel - 1, by omega⟩
    simp [magUnary, ← hm]
  | succ n ih =>
    intro fuel m st rest f hf hm
    obtain ⟨g, rfl⟩ : ∃ g, fuel = g + 1 := ⟨fuel - 1, by omega⟩
    rw [Nat.pow_succ', ← Nat.mul_assoc] at hm
    have hlt : m * 2 * 2 ^ n < 2 ^ 15 := hm ▸ Nat.pow_lt_pow_right (by omega) he
    have hle := Nat.le_mul_of_pos_right (m * 2) (Nat.two_pow_pos n)
    have := ih g (m * 2) (st + 1) rest f (by omega) hm
    simp only [Nat.add_assoc, Nat.add_comm 1] at this
    -- the first decision in front, the others as the list of the induction hypothesis
    simp only [List.range_succ_eq_map, List.map_cons, List.map_map, Function.comp_def, Nat.succ_eq_add_one, Nat.add_zero, List.cons_append]
    -- one step of the loop: a 1 is read, the category doubles and stays below `0x8000`
    simp only [magUnary, lsrc_next, Nat.one_ne_zero, if_false, if_neg (show m * 2 ≠ 0x8000 by omega)]
    exact this

/-- categories 0 and 1 have no magnitude bits -/
theorem magBits_stop (fuel v m st : Nat) (s : List Dn × Bool) (h : m ≤ 1) : magBits lsrc fuel v m st s = (v, s) := by
  cases fuel with
  | zero => rfl
  | succ g => rw [magBits, if_pos (by omega)]

/-- `j` magnitude bits of `w`, most significant first, all in bin `st`, are or-ed into the value -/
theorem magBits_bits (w : Nat) : ∀ (j fuel v st : Nat) (rest : List Dn) (f : Bool), j ≤ fuel →
    magBits lsrc fuel v (2 ^ j) st ((List.range j).map (fun i => (st, (w >>> (j - 1 - i)) % 2)) ++ rest, f) =
      (v ||| w % 2 ^ j, (rest, f)) := by
  intro j
  induction j with
  | zero =>
    intro fuel v st rest f _
    cases fuel <;> simp [magBits, Nat.mod_one]
  | succ j ih =>
    intro fuel v st rest f hf
    obtain ⟨g, rfl⟩ : ∃ g, fuel = g + 1 := ⟨fuel - 1, by omega⟩
    have hhalf : 2 ^ (j + 1) / 2 = 2 ^ j := by rw [Nat.pow_succ, Nat.mul_div_cancel _ (by decide)]
    have hpos : 2 ^ j ≠ 0 := by have := Nat.two_pow_pos j; omega
    -- bit `j` in front, the others as the list of the induction hypothesis
    simp only [List.range_succ_eq_map, List.map_cons, List.map_map, Function.comp_def, Nat.succ_eq_one_add, Nat.add_sub_cancel, Nat.sub_zero,
      Nat.sub_add_eq, List.cons_append]
    -- one step of the loop: `m / 2 = 2 ^ j` is not 0, bit `j` is read and or-ed in
    simp only [magBits, lsrc_next, hhalf, hpos, if_false]
    rw [ih g _ st rest f (by omega)]
    -- the low `j + 1` bits of `w` are bit `j` or-ed with the low `j` bits
    rw [Nat.mod_pow_succ, ← Nat.shiftRight_eq_div_pow, Nat.add_comm, Nat.two_pow_add_eq_or_of_lt (Nat.mod_lt _ (Nat.two_pow_pos j)),
      ← Nat.or_assoc]
    rcases Nat.mod_two_eq_zero_or_one (w >>> j) with hb | hb <;> simp [hb]

/-- the bits of `v1 ≥ 1` below its leading one, read from the category `2 ^ log2 v1`, give `v1`
(20 is the fuel `decDC` and `decACval` give both loops; below `2 ^ 15` fifteen steps do) -/
theorem magBits_log2 (v1 st : Nat) (rest : List Dn) (f : Bool) (h0 : v1 ≠ 0) (hb : v1 < 2 ^ 15) :
    magBits lsrc 20 (2 ^ Nat.log2 v1) (2 ^ Nat.log2 v1) st
      ((List.range (Nat.log2 v1)).map (fun i => (st, (v1 >>> (Nat.log2 v1 - 1 - i)) % 2)) ++ rest, f) = (v1, (rest, f)) := by
  have hn := (Nat.log2_lt h0).2 hb
  have hor := Nat.two_pow_add_eq_or_of_lt (Nat.mod_lt v1 (Nat.two_pow_pos (Nat.log2 v1))) 1
  rw [Nat.mul_one, log2_split v1 h0] at hor
  rw [magBits_bits v1 _ 20 _ st rest f (by omega), ← hor]

/-- the value of a (magnitude, sign) pair -/
def sval (neg : Bool) (a : Nat) : Int := if neg then -((a : Nat) : Int) else ((a : Nat) : Int)

/-- the decoders put the value together from the sign decision and the magnitude minus one -/
theorem sval_succ (neg : Bool) (m : Nat) :
    (if (if neg = true then 1 else 0 : Nat) = 1 then -((m : Int) + 1) else (m : Int) + 1) = sval neg (m + 1) := by
  cases neg <;> rfl

theorem sval_natAbs (v : Int) : sval (decide (v < 0)) v.natAbs = v := by
  simp only [sval, decide_eq_true_eq]
  split <;> omega

theorem decDC_dcDiff (tbl ctx L U : Nat) (v : Int) (hv : v.natAbs ≤ 32768) (rest : List Dn) (f : Bool) :
    decDC lsrc ((dcDiff tbl ctx L U v).1 ++ rest, f) tbl ctx L U = some (v, (dcDiff tbl ctx L U v).2, (rest, f)) := by
  unfold dcDiff decDC
  by_cases h0 : v = 0
  · subst h0; simp
  · obtain ⟨a, ha⟩ : ∃ a, v.natAbs = a + 1 := ⟨v.natAbs - 1, by omega⟩
    have hval := sval_succ (decide (v < 0)) a
    rw [← ha, sval_natAbs] at hval
    simp only [decide_eq_true_eq] at hval
    simp only [h0, if_false, ha, Nat.add_sub_cancel]
    unfold dcMag
    by_cases h1 : a = 0
    · subst h1
      simp only [if_true, List.cons_append, List.nil_append, lsrc_next, Nat.one_ne_zero, ne_eq, not_true_eq_false, if_false]
      rw [magBits_stop _ _ _ _ _ (Nat.zero_le 1), hval]
    · have hn := (Nat.log2_lt h1).2 (show a < 2 ^ 15 by omega)
      -- "not zero", the sign and "magnitude above 1" are read one by one
      simp only [h1, if_false, List.cons_append, List.append_assoc, lsrc_next, ne_eq, Nat.one_ne_zero, not_false_eq_true, if_true]
      -- then the category in unary from 1, and the bits below the leading one
      rw [magUnary_ones _ hn _ 20 1 _ _ f (by omega) (Nat.one_mul _)]
      dsimp only
      rw [magBits_log2 _ _ rest f h1 (by omega), hval]

theorem acVal_head (tbl K k st : Nat) (neg : Bool) (av : Nat) :
    acVal tbl K k st neg av = (st + 1, 1) :: (acVal tbl K k st neg av).tail := by
  fun_cases acVal tbl K k st neg av <;> rfl

/-- **a nonzero AC coefficient**: after the "not zero" decision, sign and magnitude decode exactly -/
theorem decACval_acVal (tbl K k st : Nat) (neg : Bool) (av : Nat) (h1 : 1 ≤ av) (hv : av ≤ 32768) (rest : List Dn) (f : Bool) :
    decACval lsrc ((acVal tbl K k st neg av).tail ++ rest, f) tbl k K st = some (sval neg av, (rest, f)) := by
  obtain ⟨a, rfl⟩ : ∃ a, av = a + 1 := ⟨av - 1, by omega⟩
  unfold acVal decACval
  rw [Nat.add_sub_cancel]
  by_cases hz : a = 0
  · subst hz
    simp only [if_true, List.cons_append, List.nil_append, List.tail_cons, lsrc_next, ne_eq, not_true_eq_false, if_false]
    rw [magBits_stop _ _ _ _ _ (Nat.zero_le 1), sval_succ]
  · have hn := (Nat.log2_lt hz).2 (show a < 2 ^ 15 by omega)
    by_cases hn0 : Nat.log2 a = 0
    · obtain rfl : a = 1 := by
        have ha := log2_split a hz
        rw [hn0, Nat.pow_zero, Nat.mod_one] at ha
        exact ha.symm
      simp only [hz, hn0, if_true, if_false, List.cons_append, List.nil_append, List.tail_cons, lsrc_next, ne_eq, not_false_eq_true,
        not_true_eq_false]
      rw [magBits_stop _ _ _ _ _ (Nat.le_refl 1), sval_succ]
    · -- the sign and twice "magnitude above" are read one by one
      simp only [hz, hn0, if_false, List.cons_append, List.nil_append, List.append_assoc, List.tail_cons, lsrc_next, ne_eq, Nat.one_ne_zero,
        not_false_eq_true, if_true]
      -- then the category in unary from 2, and the bits below the leading one
      rw [magUnary_ones _ hn (Nat.log2 a - 1) 20 2 _ _ f (by omega) (by rw [Nat.mul_comm, Nat.pow_pred_mul (by omega)])]
      dsimp only
      rw [magBits_log2 _ _ rest f hz (by omega), sval_succ]

theorem sval_zero (c : Nat × Bool) (h : c.1 = 0) : sval c.2 c.1 = 0 := by
  rw [h]
  cases c.2 <;> rfl

/-- a band of zero magnitudes has the value 0 everywhere, at whatever level it is read -/
theorem map_zeros {g : Nat × Bool → Int} (hg : ∀ c, c.1 = 0 → g c = 0) (l : List (Nat × Bool))
    (h : l.all (fun x => x.1 == 0) = true) : l.map g = List.replicate l.length 0 :=
  List.map_eq_replicate_iff.2 fun c hc => hg c (beq_iff_eq.1 (List.all_eq_true.1 h c hc))

/-- the end-of-block question of `decF` (asked unless inside a run) and its answer: 1 exactly at the
end of the block, otherwise the decisions go on as inside a run -/
theorem acF_head (tbl K : Nat) (started : Bool) (k : Nat) (c : Nat × Bool) (t : List (Nat × Bool)) (rest : List Dn) (f : Bool)
    (hs : started = true → (c :: t).all (fun x => x.1 == 0) = false) :
    (if started = true then (0, (acF tbl K started k (c :: t) ++ rest, f))
      else lsrc.next (acF tbl K started k (c :: t) ++ rest, f) (acBin tbl k)) =
    if (c :: t).all (fun x => x.1 == 0) then (1, (rest, f)) else (0, (acF tbl K true k (c :: t) ++ rest, f)) := by
  cases started with
  | true => rw [if_pos rfl, hs rfl]; rfl
  | false =>
    simp only [acF, Bool.false_eq_true, if_false, Bool.not_false, Bool.true_and, Bool.not_true, Bool.false_and, if_true]
    cases (c :: t).all (fun x => x.1 == 0) <;>
      simp only [Bool.false_eq_true, if_false, if_true, List.cons_append, List.nil_append, lsrc_next]

theorem decF_acF (tbl K : Nat) : ∀ (l : List (Nat × Bool)) (started : Bool) (k : Nat) (rest : List Dn) (f : Bool),
    (∀ c ∈ l, c.1 ≤ 32768) → (started = true → l.all (fun x => x.1 == 0) = false) →
    decF lsrc tbl K started k l.length (acF tbl K started k l ++ rest, f) = some (l.map (fun c => sval c.2 c.1), (rest, f)) := by
  intro l
  induction l with
  | nil => intro started k rest f _ _; simp [decF, acF]
  | cons c t ih =>
    intro started k rest f hb hs
    obtain ⟨hbc, hbt⟩ := List.forall_mem_cons.1 hb
    simp only [List.length_cons, decF, acF_head tbl K started k c t rest f hs]
    cases hall : (c :: t).all (fun x => x.1 == 0) with
    | true =>
      rw [map_zeros sval_zero _ hall]
      rfl
    | false =>
      simp only [Bool.false_eq_true, if_false, Nat.zero_ne_one, acF, Bool.not_true, Bool.false_and, if_true, List.nil_append]
      by_cases hc0 : c.1 = 0
      · -- a zero inside (or starting) a run: a nonzero coefficient lies ahead
        simp only [List.all_cons, hc0, beq_self_eq_true, Bool.true_and] at hall
        have htne : t.length ≠ 0 := by
          intro h0
          rw [List.length_eq_zero_iff.1 h0] at hall
          cases hall
        rw [if_pos hc0]
        -- the decision "zero" is read, and the band does not end here
        simp only [List.cons_append, lsrc_next, Nat.zero_ne_one, if_false, htne]
        rw [ih true (k + 1) rest f hbt (fun _ => hall), List.map_cons, sval_zero c hc0]
      · -- a coefficient
        rw [if_neg hc0, acVal_head]
        -- "not zero" is read, then sign and magnitude by `decACval`
        simp only [List.cons_append, List.append_assoc, lsrc_next, if_true]
        rw [decACval_acVal tbl K k _ c.2 c.1 (by omega) hbc]
        dsimp only
        rw [ih false (k + 1) rest f hbt (fun h => by cases h), List.map_cons]

open LJT.ProgAC (prevOf newOf prevOf_ne prevOf_zero prevOf_one newOf_zero newOf_one corr corr_prev)

/-- a previous value is 0 exactly for a magnitude below 2 -/
theorem prev_all_zero (p : Int) (hp : 0 < p) (l : List (Nat × Bool)) :
    (l.map (prevOf p)).all (· == 0) = !(l.any (fun x => decide (x.1 ≥ 2))) := by
  rw [List.all_map, List.not_any_eq_all_not]
  congr 1
  funext c
  by_cases h2 : 2 ≤ c.1
  · simp [prevOf_ne p hp c h2, h2]
  · simp [show prevOf p c = 0 from if_pos (by omega), h2]

/-- the end-of-block question of `decR` (asked outside a run when no coefficient with history lies
ahead) and its answer: 1 exactly at the end of the block, otherwise the decisions go on as inside a run -/
theorem acR_head (tbl : Nat) (p : Int) (hp : 0 < p) (started : Bool) (k : Nat) (c : Nat × Bool) (t : List (Nat × Bool))
    (rest : List Dn) (f : Bool) (hs : started = true → (c :: t).all (fun x => x.1 == 0) = false) :
    (if (!started && (prevOf p c :: t.map (prevOf p)).all (· == 0)) = true
      then lsrc.next (acR tbl started k (c :: t) ++ rest, f) (acBin tbl k) else (0, (acR tbl started k (c :: t) ++ rest, f))) =
    if (c :: t).all (fun x => x.1 == 0) then (1, (rest, f)) else (0, (acR tbl true k (c :: t) ++ rest, f)) := by
  cases started with
  | true => simp only [Bool.not_true, Bool.false_and, Bool.false_eq_true, if_false, hs rfl]
  | false =>
    rw [← List.map_cons, prev_all_zero p hp]
    simp only [acR, Bool.not_false, Bool.true_and, Bool.false_or, Bool.not_true, Bool.false_and, Bool.true_or, Bool.false_eq_true, if_false,
      if_true, List.nil_append]
    cases hall : (c :: t).all (fun x => x.1 == 0) with
    | true =>
      have hnone : (c :: t).any (fun x => decide (x.1 ≥ 2)) = false :=
        List.any_eq_false.2 fun x hx => by rw [beq_iff_eq.1 (List.all_eq_true.1 hall x hx)]; decide
      simp only [hnone, Bool.not_false, if_true, List.cons_append, List.nil_append, lsrc_next]
    | false =>
      cases (c :: t).any (fun x => decide (x.1 ≥ 2)) <;>
        simp only [Bool.not_true, Bool.not_false, Bool.false_eq_true, if_false, if_true, List.cons_append, List.nil_append, lsrc_next]

/-- the bridge to `Proofs/ProgRef.lean`, whose coefficients `ProgAC.C = Nat × Bool` with `prevOf`,
`newOf` describe the refinement here as well: its `corr_prev` with the correction written the way
`decR` applies it (test `cur < 0` where `ProgAC.corr` tests `cur ≥ 0`) -/
theorem decR_corr (p : Int) (hp : 0 < p) (c : Nat × Bool) (h2 : 2 ≤ c.1) :
    (if c.1 % 2 = 1 then (if prevOf p c < 0 then prevOf p c - p else prevOf p c + p) else prevOf p c) = newOf p c := by
  rw [← corr_prev p hp c h2]
  simp only [corr, decide_eq_true_eq, ge_iff_le, ← Int.not_lt, ite_not]

theorem decR_acR (tbl : Nat) (p : Int) (hp : 0 < p) : ∀ (l : List (Nat × Bool)) (started : Bool) (k : Nat) (rest : List Dn) (f : Bool),
    (started = true → l.all (fun x => x.1 == 0) = false) →
    decR lsrc tbl p started k (l.map (prevOf p)) (acR tbl started k l ++ rest, f) = some (l.map (newOf p), (rest, f)) := by
  intro l
  induction l with
  | nil => intro started k rest f _; simp [decR, acR]
  | cons c t ih =>
    intro started k rest f hs
    rw [List.map_cons]
    simp only [decR, acR_head tbl p hp started k c t rest f hs]
    cases hall : (c :: t).all (fun x => x.1 == 0) with
    | true =>
      simp only [if_true]
      rw [← List.map_cons, map_zeros (prevOf_zero p) _ hall, map_zeros (newOf_zero p) _ hall]
    | false =>
      simp only [Bool.false_eq_true, if_false, Nat.zero_ne_one, acR, Bool.not_true, Bool.false_and, Bool.true_or, if_true, List.nil_append]
      by_cases hc0 : c.1 = 0
      · -- a zero inside (or starting) a run: a nonzero coefficient lies ahead
        simp only [List.all_cons, hc0, beq_self_eq_true, Bool.true_and] at hall
        have htne : (t.map (prevOf p)).isEmpty = false := by
          cases t with
          | nil => cases hall
          | cons _ _ => rfl
        -- no history, the decision "zero" is read, and the band does not end here
        simp only [hc0, prevOf_zero p c hc0, ne_eq, not_true_eq_false, if_true, if_false, List.cons_append, lsrc_next, Nat.zero_ne_one, htne,
          Bool.false_eq_true]
        rw [ih true (k + 1) rest f (fun _ => hall), List.map_cons, newOf_zero p c hc0]
      · by_cases h2 : c.1 ≥ 2
        · -- a coefficient with history: one correction decision
          simp only [hc0, h2, if_false, if_true, prevOf_ne p hp c h2, ne_eq, not_false_eq_true, List.cons_append, lsrc_next]
          rw [ih false (k + 1) rest f (fun h => by cases h)]
          dsimp only
          rw [decR_corr p hp c h2, List.map_cons]
        · -- a newly nonzero coefficient: magnitude 1 at this level, and its sign
          have h1 : c.1 = 1 := by omega
          -- no history, "not zero" and the sign are read
          simp only [hc0, h2, if_false, prevOf_one p c h1, ne_eq, not_true_eq_false, List.cons_append, lsrc_next, if_true]
          rw [ih false (k + 1) rest f (fun h => by cases h), List.map_cons, newOf_one p c h1]
          cases c.2 <;> rfl

end LJT.ArithBin

