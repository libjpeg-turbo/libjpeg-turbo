import LJT.Model.MergedSM
import LJT.Proofs.RowMachine
/-!
The merged machine of Model/MergedSM.lean with 2:1 vertical sampling (`merged_2v_upsample` and its spare row): invariant,
one equation per branch of `mupsample`, the read and the skip, the latter for the calls that avoid known finding D16.
The invariant `InvM` is a conjunction of field equations, not an inductive over states written as functions of the position
as in the other two machine files; `mread_spec` works on the destructured record.  With 2:1 sampling every state the proofs
meet is one between API calls, so `InvM` appears with `strong = true` only.
-/
namespace LJT.Skip

/-- the invariant of the merged 2:1 machine.  `strong`: between API calls (a full main buffer has had a row delivered
from it); `exact`: `rows_to_go` is up to date (inside a skip it may lag behind, which is harmless for one-row reads).
Inside the image: the position `(a, g, r)` of `output_scanline`, `rows_to_go` covers the rows left, and one of three states -
iMCU row `a` in the main buffer before row group `g`; nothing of iMCU row `a` decoded; the second row of row group `(a, g)`
waiting in the spare row. -/
def InvM (strong exact : Bool) (c : Cfg) (s : MSt) : Prop :=
  s.y ≤ c.H ∧ (s.y < c.H → ∃ a g r, g < c.M ∧ r < 2 ∧ s.y = lineOf c a g r ∧ c.H - s.y ≤ s.rtg ∧
    (exact = true → s.rtg = c.H - s.y) ∧
    ((r = 0 ∧ s.spare = false ∧ s.bf = true ∧ s.bufRow = a ∧ s.rg = g ∧ s.irow = a + 1 ∧ (strong = true → g ≠ 0))
     ∨ (r = 0 ∧ s.spare = false ∧ g = 0 ∧ s.bf = false ∧ s.rg = 0 ∧ s.irow = a)
     ∨ (r = 1 ∧ s.spare = true ∧ s.spRow = a ∧ s.spRg = g ∧ s.bf = true ∧ s.bufRow = a ∧ s.rg = g ∧ s.irow = a + 1)))

theorem InvM.inexact {c : Cfg} {s : MSt} {b e : Bool} (h : InvM b e c s) : InvM b false c s := by
  refine ⟨h.1, fun hy => ?_⟩
  obtain ⟨a, g, r, hg, hr, hy', hrtg, _, hc⟩ := h.2 hy
  exact ⟨a, g, r, hg, hr, hy', hrtg, nofun, hc⟩

variable (c : Cfg)

theorem minit_inv (hM : 0 < c.M) : InvM true true c (minit c) :=
  ⟨Nat.zero_le _, fun _ => ⟨0, 0, 0, hM, Nat.zero_lt_two, (lineOf_zero c).symm, Nat.le_refl _, fun _ => rfl,
    Or.inr (Or.inl ⟨rfl, rfl, rfl, rfl, rfl, rfl⟩)⟩⟩

theorem mfillBuf_at (s : MSt) (a : Nat)
    (h : (s.bf = true ∧ s.bufRow = a ∧ s.irow = a + 1) ∨ (s.bf = false ∧ s.irow = a)) :
    mfillBuf s = { s with bf := true, bufRow := a, irow := a + 1 } := by
  obtain ⟨y, irow, bf, rg, spare, rtg, bufRow, spRow, spRg⟩ := s
  dsimp only at h
  rcases h with ⟨rfl, rfl, rfl⟩ | ⟨rfl, rfl⟩
  · rfl
  · rfl

/-- what `process_data_simple_main` does once the upsampler has returned: a finished iMCU row leaves the buffer -/
def mwrap (s : MSt) : MSt := if c.M ≤ s.rg then { s with bf := false, rg := 0 } else s

theorem mread_eq (s : MSt) (n : Nat) (h1 : ¬ c.H ≤ s.y) (h2 : ¬ n = 0) :
    mread c s n = ({ mwrap c (mupsample c (mfillBuf s) n).1 with
      y := (mupsample c (mfillBuf s) n).1.y + (mupsample c (mfillBuf s) n).2.length }, (mupsample c (mfillBuf s) n).2) := by
  simp only [mread, h1, h2, if_false, mwrap]
  split <;> rfl

section
variable (hv : c.v = 2) {y irow rg rtg bufRow spRow spRg n : Nat} {bf : Bool}
include hv

theorem mupsample_spare :
    mupsample c ⟨y, irow, bf, rg, true, rtg, bufRow, spRow, spRg⟩ n =
      (⟨y, irow, bf, rg + 1, false, rtg - 1, bufRow, spRow, spRg⟩, [(spRow, spRg, 1)]) := by
  simp [mupsample, hv]

theorem mupsample_pair (hn : 2 ≤ n) (hrtg : 2 ≤ rtg) :
    mupsample c ⟨y, irow, bf, rg, false, rtg, bufRow, spRow, spRg⟩ n =
      (⟨y, irow, bf, rg + 1, false, rtg - 2, bufRow, spRow, spRg⟩, [(bufRow, rg, 0), (bufRow, rg, 1)]) := by
  have hk : min (min 2 rtg) n = 2 := by rw [Nat.min_eq_left hrtg, Nat.min_eq_left hn]
  simp [mupsample, hv, hk]

theorem mupsample_one (hn : 1 ≤ n) (hrtg : 1 ≤ rtg) (h1 : ¬ (2 ≤ n ∧ 2 ≤ rtg)) :
    mupsample c ⟨y, irow, bf, rg, false, rtg, bufRow, spRow, spRg⟩ n =
      (⟨y, irow, bf, rg, true, rtg - 1, bufRow, bufRow, rg⟩, [(bufRow, rg, 0)]) := by
  have hk : min (min 2 rtg) n = 1 := by omega
  simp [mupsample, hv, hk]

end

/-- row group `(a, g)` is finished with the `k` rows from row `r` on: the invariant at the start of the next one -/
theorem InvM.next_group (e : Bool) {y a g r k rtg y0 spRow spRg : Nat} (hp : PosAt c y a g r)
    (hrk : r + k = c.v) (hyH : y + k ≤ c.H) (hrtg : c.H - (y + k) ≤ rtg) (hex : e = true → rtg = c.H - (y + k)) :
    InvM true e c { mwrap c ⟨y0, a + 1, true, g + 1, false, rtg, a, spRow, spRg⟩ with y := y + k } := by
  refine ⟨hyH, fun _ => ?_⟩
  by_cases hlast : g + 1 = c.M
  · rw [mwrap, if_pos (Nat.le_of_eq hlast.symm)]
    have hn := hp.next_imcu hrk hlast
    exact ⟨a + 1, 0, 0, hn.1, Nat.zero_lt_two, hn.2.2, hrtg, hex, Or.inr (Or.inl ⟨rfl, rfl, rfl, rfl, rfl, rfl⟩)⟩
  · have hn := hp.next_group hrk (Nat.lt_of_le_of_ne hp.1 hlast)
    rw [mwrap, if_neg (Nat.not_le.mpr hn.1)]
    exact ⟨a, g + 1, 0, hn.1, Nat.zero_lt_two, hn.2.2, hrtg, hex,
      Or.inl ⟨rfl, rfl, rfl, rfl, rfl, rfl, fun _ => Nat.succ_ne_zero g⟩⟩

theorem rtg_exact {rtg H y k : Nat} (h : rtg = H - y) : rtg - k = H - (y + k) := by
  rw [h, Nat.sub_add_eq]

theorem rtg_lag {rtg H y k : Nat} (h : H - y ≤ rtg) : H - (y + k) ≤ rtg - k := by
  rw [Nat.sub_add_eq]
  exact Nat.sub_le_sub_right h k

/-- `hne`: a read of more than one row needs `rows_to_go` up to date (`merged_2v_upsample` takes `min 2 rows_to_go` rows);
inside a skip, where it lags, only single rows are read -/
theorem mread_spec (hv : c.v = 2) (s : MSt) (n : Nat) (e : Bool) (h : InvM true e c s) (hne : n = 1 ∨ e = true) :
    InvM true e c (mread c s n).1 ∧ ReadOK c s.y n (mread c s n).2 (mread c s n).1.y := by
  refine ReadOK.frame c MSt.y (InvM true e c) h h.1 _ rfl (fun h1 h2 => ?_)
  have hH : s.y < c.H := Nat.lt_of_not_le h1
  have hn : 1 ≤ n := Nat.pos_of_ne_zero h2
  obtain ⟨a, g, r, hg, hr, hy, hrtg, hex, hc⟩ := h.2 hH
  obtain ⟨hmain, hrg, hups⟩ : ((s.bf = true ∧ s.bufRow = a ∧ s.irow = a + 1) ∨ (s.bf = false ∧ s.irow = a)) ∧ s.rg = g ∧
      ((r = 0 ∧ s.spare = false) ∨ (r = 1 ∧ s.spare = true ∧ s.spRow = a ∧ s.spRg = g)) := by
    rcases hc with ⟨x1, x2, x3, x4, x5, x6, _⟩ | ⟨x1, x2, x3, x4, x5, x6⟩ | ⟨x1, x2, x3, x4, x5, x6, x7, x8⟩
    · exact ⟨Or.inl ⟨x3, x4, x6⟩, x5, Or.inl ⟨x1, x2⟩⟩
    · exact ⟨Or.inr ⟨x4, x6⟩, x5.trans x3.symm, Or.inl ⟨x1, x2⟩⟩
    · exact ⟨Or.inl ⟨x5, x6, x8⟩, x7, Or.inr ⟨x1, x2, x3, x4⟩⟩
  have hp : PosAt c s.y a g r := ⟨hg, hv ▸ hr, hy⟩
  rw [mread_eq c s n h1 h2, mfillBuf_at s a hmain]
  clear hmain hc h
  obtain ⟨y, irow, bf, rg, spare, rtg, bufRow, spRow, spRg⟩ := s
  dsimp only at hH hp hrtg hex hrg hups ⊢
  subst hrg
  rcases hups with ⟨rfl, rfl⟩ | ⟨rfl, rfl, rfl, rfl⟩
  · by_cases hk : 2 ≤ n ∧ 2 ≤ rtg
    · have h2H : y + 2 ≤ c.H :=
        Nat.add_le_of_le_sub' (Nat.le_of_lt hH) (hex (hne.resolve_left (Nat.ne_of_gt hk.1)) ▸ hk.2)
      rw [mupsample_pair c hv hk.1 hk.2]
      exact ⟨InvM.next_group c e hp hv.symm h2H (rtg_lag hrtg) (fun he => rtg_exact (hex he)),
        ReadOK.range hp (Nat.le_add_left 1 1) (Nat.le_of_eq hv.symm) hk.1 h2H⟩
    · have hr1 : 1 ≤ rtg := Nat.le_trans (Nat.sub_pos_of_lt hH) hrtg
      rw [mupsample_one c hv hn hr1 hk, mwrap, if_neg (Nat.not_le.mpr hg)]
      exact ⟨⟨hH, fun _ => ⟨a, rg, 1, hg, Nat.le_refl 2, hp.2.2 ▸ rfl, rtg_lag hrtg,
        fun he => rtg_exact (hex he), Or.inr (Or.inr ⟨rfl, rfl, rfl, rfl, rfl, rfl, rfl, rfl⟩)⟩⟩,
        ReadOK.range hp (Nat.le_refl 1) hp.2.1 hn hH⟩
  · rw [mupsample_spare c hv]
    exact ⟨InvM.next_group c e hp hv.symm hH (rtg_lag hrtg) (fun he => rtg_exact (hex he)),
      ReadOK.range hp (Nat.le_refl 1) (Nat.le_of_eq hv.symm) hn hH⟩

theorem mruns : Runs MSt.y (mread c) (mskip c) (mstep c) (mrun c) (mreadDiscard c) :=
  ⟨fun _ _ => rfl, fun _ _ => rfl, fun _ => rfl, fun _ _ _ => rfl, fun _ => rfl, fun _ _ => rfl⟩

theorem mreadDiscard_spec (hv : c.v = 2) (e : Bool) (k : Nat) (s : MSt) (h : InvM true e c s) (hH : s.y + k ≤ c.H) :
    InvM true e c (mreadDiscard c k s) ∧ (mreadDiscard c k s).y = s.y + k := by
  rw [(mruns c).discard_run]
  exact ((mruns c).one_by_one c (InvM true e c) (fun s h _ => mread_spec c hv s 1 e h (Or.inl rfl))
    k s h hH).2

/-- `set_merged_rows_to_go` -/
theorem InvM.set_rtg {c : Cfg} {s : MSt} {b e : Bool} (h : InvM b e c s) : InvM b true c { s with rtg := c.H - s.y } := by
  refine ⟨h.1, fun hy => ?_⟩
  obtain ⟨a, g, r, hg, hr, hy', _, _, hc⟩ := h.2 hy
  exact ⟨a, g, r, hg, hr, hy', Nat.le_refl _, fun _ => rfl, hc⟩

theorem mskip_spec (hv : c.v = 2) (s : MSt) (n : Nat) (hinv : InvM true true c s)
    (hfree : d16 c s (.sk n) = false) :
    InvM true true c (mskip c s n).1 ∧ (mskip c s n).2 = min n (c.H - s.y) ∧ (mskip c s n).1.y = s.y + min n (c.H - s.y) := by
  refine skip_frame MSt.y (InvM true true c) hinv hinv.1 ⟨⟨Nat.le_refl _, fun h => absurd h (Nat.lt_irrefl _)⟩, rfl⟩ _ rfl
    (fun hlt hys hn => ?_)
  obtain ⟨a, g, r, hg, hr, hy, hrtg, _, hc⟩ := hinv.2 hys
  have hp : PosAt c s.y a g r := ⟨hg, hv ▸ hr, hy⟩
  by_cases hin : n < leftOf c g r
  · obtain ⟨j1, j2⟩ := mreadDiscard_spec c hv true n s hinv (Nat.le_of_lt hlt)
    simp only [hp.left, hin, if_true, mincSimple, if_pos hv]
    exact ⟨j1, trivial, j2⟩
  · -- the spare row is empty, or this would be the D16 situation
    have hsp : s.spare = false := by
      simpa [d16, hp.left, hlt, Nat.le_of_not_lt hin, hn] using hfree
    -- so `output_iMCU_row` starts where the current iMCU row ends, or here if nothing of it has been decoded
    have hb : lineOf c s.irow 0 0 = s.y + leftOf c g r := by
      rcases hc with ⟨_, _, _, _, _, x6, x7⟩ | ⟨rfl, _, rfl, _, _, x6⟩ | ⟨_, x2, _⟩
      · rw [x6]
        exact hp.boundary (Or.inl (Nat.pos_of_ne_zero (x7 rfl)))
      · rw [x6]
        exact hp.boundary_here
      · rw [hsp] at x2
        cases x2
    -- the `leftOf` rows of the current iMCU row are dropped, whole iMCU rows are stepped over, the rest is read and
    -- discarded with `rows_to_go` lagging behind, `set_merged_rows_to_go`
    have hM := Nat.zero_lt_of_lt hg
    have hL : 0 < c.M * c.v := Nat.mul_pos hM (hv ▸ Nat.zero_lt_two)
    simp only [hp.left, hin, if_false, mincSimple, if_pos hv, Nat.mul_div_cancel _ hL]
    obtain ⟨q, hq, f1, f2, f3, _⟩ := whole_rows (c.M * c.v) (Nat.le_refl _) (rest_add (Nat.le_of_not_lt hin)) hlt
    rw [hq]
    obtain ⟨i1, i2⟩ := mreadDiscard_spec c hv false (n - leftOf c g r - q * (c.M * c.v))
      { s with y := s.y + leftOf c g r + q * (c.M * c.v), bf := false, rg := 0, irow := s.irow + q }
      ⟨f1, fun _ => ⟨s.irow + q, 0, 0, hM, Nat.zero_lt_two, by show s.y + leftOf c g r + _ = _; rw [lineOf_add, hb],
        Nat.le_trans (Nat.sub_le_sub_left (Nat.le_trans (Nat.le_add_right _ _) (Nat.le_add_right _ _)) _) hrtg,
        nofun, Or.inr (Or.inl ⟨rfl, hsp, rfl, rfl, rfl, rfl⟩)⟩⟩
      (Nat.le_of_lt f2)
    exact ⟨i1.set_rtg, trivial, i2.trans f3⟩

/-- `rest`: the calls after the history, which have to avoid the D16 situation too -/
theorem mrun_spec (hv : c.v = 2) (hM : 0 < c.M) (calls rest : List Call) (hf : d16free c (minit c) (calls ++ rest) = true) :
    (InvM true true c (mrun c (minit c) calls).1 ∧ d16free c (mrun c (minit c) calls).1 rest = true) ∧
      ∀ ip ∈ (mrun c (minit c) calls).2, RowOK c ip :=
  (mruns c).rows c (fun s calls => InvM true true c s ∧ d16free c s calls = true)
    (fun s n as h => by
      simp only [d16free, Bool.and_eq_true, Bool.not_eq_true'] at h
      obtain ⟨hi, hok⟩ := mread_spec c hv s n true h.1 (Or.inr rfl)
      exact ⟨⟨hi, h.2.2⟩, hok⟩)
    (fun s n as h => by
      simp only [d16free, Bool.and_eq_true, Bool.not_eq_true'] at h
      exact ⟨(mskip_spec c hv s n h.1 h.2.1).1, h.2.2⟩) calls rest (minit c) ⟨minit_inv c hM, hf⟩

end LJT.Skip
