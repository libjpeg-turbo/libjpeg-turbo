import LJT.Model.ICC
import LJT.Proofs.ListAux
/-! ICC profiles (C16).  The writer cuts a profile into segments of `MAX_DATA` bytes numbered from 1 (`chunks_spec`,
`mkMarkers_eq`); the reader accepts any complete set of segments, in any order and among any other markers
(`readICC_complete`). -/
namespace LJT.ICC

theorem MAX_DATA_eq : MAX_DATA = 65519 := rfl

theorem chunks_spec (f : Nat) (p : List Nat) (h : p.length ≤ f) :
    (chunks f p).flatten = p ∧ (chunks f p).length = (p.length + MAX_DATA - 1) / MAX_DATA := by
  fun_induction chunks f p with
  | case1 p =>
    cases p with
    | nil => exact ⟨rfl, rfl⟩
    | cons => cases h
  | case2 => exact ⟨rfl, rfl⟩
  | case3 f b p ih =>
    obtain ⟨i1, i2⟩ := ih (by
      simp only [List.length_drop, List.length_cons] at h ⊢
      rw [MAX_DATA_eq]; omega)
    simp only [List.flatten_cons, List.length_cons, i1, i2, List.take_append_drop, List.length_drop, true_and]
    rw [MAX_DATA_eq]
    omega

theorem numMarkers_eq (len : Nat) : numMarkers len = (len + MAX_DATA - 1) / MAX_DATA := by
  rw [numMarkers, MAX_DATA_eq]
  split <;> omega

section
variable (n k : Nat) (c : List Nat)

theorem mk_isICC : isICC (mkMarker n k c) = true := by
  simp [isICC, mkMarker, ICC_MARKER, ICC_OVERHEAD_LEN, magic]

theorem mk_seqNo (hk : k + 1 < 256) : seqNo (mkMarker n k c) = k + 1 := by
  simp [seqNo, mkMarker, magic, Nat.mod_eq_of_lt hk]

theorem mk_count (hn : n < 256) : count (mkMarker n k c) = n := by
  simp [count, mkMarker, magic, Nat.mod_eq_of_lt hn]

theorem mk_payload : payload (mkMarker n k c) = c := by
  simp [payload, mkMarker, magic, ICC_OVERHEAD_LEN]

end

theorem mkMarkers_eq (n : Nat) (L : List (List Nat)) (k : Nat) :
    mkMarkers n k L = L.mapIdx (fun j c => mkMarker n (k + j) c) := by
  fun_induction mkMarkers n k L with
  | case1 => rfl
  | case2 k c cs ih => simp only [ih, List.mapIdx_cons, Nat.add_zero, Nat.add_assoc, Nat.add_comm 1]

theorem mem_mkMarkers (n : Nat) (L : List (List Nat)) (k : Nat) (m : Nat × List Nat) :
    m ∈ mkMarkers n k L ↔ ∃ j, ∃ h : j < L.length, mkMarker n (k + j) L[j] = m := by
  rw [mkMarkers_eq]; exact List.mem_mapIdx

theorem seq_mkMarkers (n : Nat) (L : List (List Nat)) (k : Nat) (hk : k + L.length < 256) :
    (mkMarkers n k L).map seqNo = List.range' (k + 1) L.length := by
  fun_induction mkMarkers n k L with
  | case1 => rfl
  | case2 k c cs ih =>
    rw [List.length_cons] at hk
    rw [List.map_cons, List.length_cons, List.range'_succ, mk_seqNo n k c (by omega), ih (by omega)]

theorem filter_mkMarkers (n : Nat) (L : List (List Nat)) (k : Nat) :
    (mkMarkers n k L).filter isICC = mkMarkers n k L := by
  apply List.filter_eq_self.2
  intro m hm
  obtain ⟨j, _, rfl⟩ := (mem_mkMarkers n L k m).1 hm
  exact mk_isICC _ _ _

theorem find_unique {α : Type} (key : α → Nat) (l : List α) (m : α) (hnd : (l.map key).Nodup) (hm : m ∈ l) :
    l.find? (fun x => key x == key m) = some m := by
  induction l with
  | nil => cases hm
  | cons a l ih =>
    simp only [List.map_cons, List.nodup_cons] at hnd
    rcases List.mem_cons.1 hm with rfl | hm'
    · simp
    · have hne : key a ≠ key m := by
        intro e; apply hnd.1; rw [e]; exact List.mem_map_of_mem hm'
      rw [List.find?_cons_of_neg (by simpa using hne)]
      exact ih hnd.2 hm'

/-- the reader accepts any complete set of `n` segments, in any order and among any other markers, and concatenates
their payloads by sequence number -/
theorem readICC_complete (ms : List (Nat × List Nat)) (n : Nat) (hn : 0 < n)
    (hcount : ∀ m ∈ ms.filter isICC, count m = n) (hseq : ((ms.filter isICC).map seqNo).Perm (List.range' 1 n)) :
    readICC ms =
      if ((List.range n).flatMap (payloadAt (ms.filter isICC))).isEmpty then none
      else some ((List.range n).flatMap (payloadAt (ms.filter isICC))) := by
  unfold readICC
  generalize ms.filter isICC = icc at *
  have hmem : ∀ i, i ∈ icc.map seqNo ↔ 1 ≤ i ∧ i < 1 + n := fun i => hseq.mem_iff.trans List.mem_range'_1
  cases icc with
  | nil => exact absurd ((hmem 1).2 ⟨Nat.le_refl 1, by omega⟩) List.not_mem_nil
  | cons m0 tl =>
    have c1 : ((m0 :: tl).all fun m => count m == n) = true :=
      List.all_eq_true.2 fun m hm => beq_iff_eq.2 (hcount m hm)
    have c2 : ((m0 :: tl).all fun m => decide (0 < seqNo m) && decide (seqNo m ≤ n)) = true :=
      List.all_eq_true.2 fun m hm => by
        have := (hmem _).1 (List.mem_map_of_mem hm)
        simp only [Bool.and_eq_true, decide_eq_true_eq]
        omega
    have c3 : decide ((m0 :: tl).map seqNo).Nodup = true := decide_eq_true (hseq.nodup_iff.2 List.nodup_range')
    have c4 : ((List.range n).all fun i => (m0 :: tl).any fun m => seqNo m == i + 1) = true :=
      List.all_eq_true.2 fun i hi => by
        obtain ⟨m, hm, e⟩ := List.mem_map.1 ((hmem (i + 1)).2 ⟨by omega, by have := List.mem_range.1 hi; omega⟩)
        exact List.any_eq_true.2 ⟨m, hm, beq_iff_eq.2 e⟩
    simp only [List.head?_cons, hcount m0 (List.mem_cons_self ..), c1, c2, c3, c4, Bool.not_true, Bool.false_eq_true,
      if_false]

end LJT.ICC
