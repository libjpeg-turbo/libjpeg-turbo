import LJT.Proofs.Lossless
import LJT.Model.LosslessDec
import LJT.Proofs.Bits
/-! The whole lossless scan.  Its entropy-coded data, restart intervals joined by RSTn, decodes to the values `recon`
of the coded differences (an instance of `Bits.framed_roundtrip`).  The compressor sends the differences MCU row by
MCU row, cut into restart intervals of whole MCUs; the decoder's `regroup` puts entry `(y*w + x)*nc + ci` of the scan
back at `[ci][y][x]`. -/
namespace LJT.LL
open LJT.Huff LJT.Bits

/-- the exact form of `scan_entropy_roundtrip`: what is decoded are the values `recon` of the differences coded -/
theorem scan_roundtrip {cds : List CDerived} {dds : List DDerived} {tblOf : List Nat} {nc : Nat}
    (htab : TablesOK cds dds tblOf 0 nc) {segs : List (List (List Int))} (hne : segs ≠ [])
    (hlen : ∀ seg ∈ segs, ∀ m ∈ seg, m.length = nc) {bitss : List (List Bool)}
    (henc : All2 (fun seg bits => segBits cds tblOf (seg.flatMap (mcuItems 0)) = some bits) segs bitss) :
    decodeSegments dds tblOf nc (segs.map List.length) (splitRST (joinRST (bitss.map segmentBytes) 0) []) =
      some ((segs.map (List.map (List.map recon))).map fun seg => seg.flatMap (mcuItems 0)) := by
  rw [List.map_map]
  exact framed_roundtrip (decodeItems dds tblOf nc) (decodeSegments dds tblOf nc) rfl
    (fun _ _ _ _ _ _ _ h1 h2 => by rw [decodeSegments, h1, h2])
    (fun seg => segBits cds tblOf (seg.flatMap (mcuItems 0))) List.length _ segs bitss hne
    (fun seg hseg bits rest he => decodeItems_segBits cds dds tblOf nc htab seg bits rest (hlen seg hseg) he) henc

/-- **The entropy-coded data of a lossless scan round-trips, restart markers included.**  For any number of
restart intervals, each any sequence of MCUs of `nc` differences coded with the tables of their components:
the scan's bytes - every interval packed, 1-padded and byte-stuffed, the intervals joined by `FF D0..D7` -
split at the markers and decoded interval by interval give back, for every interval and MCU, differences
congruent modulo 2^16 to the ones coded (which is all the undifferencer looks at: `component_roundtrip`). -/
theorem scan_entropy_roundtrip (cds : List CDerived) (dds : List DDerived) (tblOf : List Nat) (nc : Nat)
    (htab : TablesOK cds dds tblOf 0 nc) (segs : List (List (List Int))) (hne : segs ≠ [])
    (hlen : ∀ seg ∈ segs, ∀ m ∈ seg, m.length = nc) (bitss : List (List Bool))
    (henc : All2 (fun seg bits => segBits cds tblOf (seg.flatMap (mcuItems 0)) = some bits) segs bitss) :
    ∃ segs', decodeSegments dds tblOf nc (segs.map List.length)
        (splitRST (joinRST (bitss.map segmentBytes) 0) []) = some (segs'.map (fun seg => seg.flatMap (mcuItems 0))) ∧
      All2 (All2 (All2 Cong16)) segs' segs :=
  ⟨segs.map (List.map (List.map recon)), scan_roundtrip htab hne hlen henc,
    all2_map_self (fun seg => all2_map_self (fun m => all2_map_self recon_cong m) seg) segs⟩

theorem diff1D_length (cs : List Int) (Ra : Int) : (diff1D Ra cs).length = cs.length := by
  induction cs generalizing Ra with
  | nil => rfl
  | cons c cs ih => rw [diff1D, List.length_cons, ih, List.length_cons]

theorem diffTail_length (psv : Nat) (cs ps : List Int) (Ra Rc : Int) (h : cs.length = ps.length) :
    (diffTail psv Ra Rc cs ps).length = cs.length := by
  induction cs generalizing ps Ra Rc with
  | nil => rfl
  | cons c cs ih =>
    match ps, h with
    | p :: ps, h => rw [diffTail, List.length_cons, ih ps c p (Nat.succ.inj h), List.length_cons]

theorem diffRow_length (psv : Nat) (prev cur : List Int) (h : cur.length = prev.length) :
    (diffRow psv prev cur).length = cur.length := by
  cases cur with
  | nil => rfl
  | cons c cs =>
    match prev, h with
    | p :: ps, h =>
      simp only [diffRow]
      split
      · simp [diff1D_length]
      · simp [diffTail_length psv cs ps c p (Nat.succ.inj h)]

theorem diffRows_shape (psv : Nat) (init : Int) (w : Nat) (rows : List (List Int)) (flags : List Bool) (prev : List Int)
    (hw : ∀ r ∈ rows, r.length = w) (hl : rows.length = flags.length) (hp : flags.headD true = true ∨ prev.length = w) :
    (diffRows psv init flags prev rows).length = rows.length ∧ ∀ r ∈ diffRows psv init flags prev rows, r.length = w := by
  induction rows generalizing flags prev with
  | nil => cases flags <;> exact ⟨rfl, nofun⟩
  | cons row rows ih =>
    obtain ⟨hrow, hw⟩ := List.forall_mem_cons.1 hw
    match flags, hl, hp with
    | f :: fs, hl, hp =>
      obtain ⟨i1, i2⟩ := ih fs row hw (Nat.succ.inj hl) (Or.inr hrow)
      rw [diffRows, List.length_cons, i1]
      refine ⟨rfl, List.forall_mem_cons.2 ⟨?_, i2⟩⟩
      by_cases hf : f = true
      · rw [if_pos hf, diffFirstRow_eq, diff1D_length, hrow]
      · rw [if_neg hf, diffRow_length psv prev row (hrow.trans (hp.resolve_left hf).symm), hrow]

/-- shape of a `[ci][y][x]` array -/
def Shape (nc h w : Nat) (D : List (List (List Int))) : Prop :=
  D.length = nc ∧ ∀ comp ∈ D, comp.length = h ∧ ∀ r ∈ comp, r.length = w

theorem encodeDiffs_shape (p : Params) {img : List (List (List Nat))} {nc h w : Nat}
    (hnc : img.length = nc) (hh : ∀ rows ∈ img, rows.length = h) (hw : ∀ rows ∈ img, ∀ r ∈ rows, r.length = w) :
    Shape nc h w (encodeDiffs p img) := by
  refine ⟨by simp [encodeDiffs, hnc], fun comp hc => ?_⟩
  obtain ⟨rows, hr, rfl⟩ := List.mem_map.1 hc
  have := diffRows_shape p.psv (initPred p) w (downscale p.Pt rows) (encFlags p.R rows.length (true, p.R)) []
    (downscale_width p.Pt rows w (hw rows hr)) (by rw [encFlags_length, downscale_length])
    (Or.inl (encFlags_headD p.R _ (true, p.R)))
  exact ⟨by rw [this.1, downscale_length, hh rows hr], this.2⟩

/-- the MCUs of one MCU row of `w` columns: for every column, one difference of every component -/
def mcuRow (w : Nat) (rows : List (List Int)) : List (List Int) :=
  (List.range w).map (fun x => rows.map (·.getD x 0))

theorem zipIdx_items (x : Nat) : ∀ (rows : List (List Int)) (k : Nat),
    (rows.zipIdx k).map (fun (p : List Int × Nat) => (p.2, p.1.getD x 0)) = mcuItems k (rows.map (·.getD x 0)) := by
  intro rows
  induction rows with
  | nil => intro k; rfl
  | cons r rs ih =>
    intro k
    rw [List.zipIdx_cons, List.map_cons, List.map_cons, mcuItems, ih (k + 1)]

theorem interleaveRow_eq (rows : List (List Int)) :
    interleaveRow rows = (mcuRow (rows.headD []).length rows).flatMap (mcuItems 0) := by
  unfold interleaveRow mcuRow
  rw [List.flatMap_map, List.flatMap_def, List.flatMap_def,
    List.map_congr_left (fun x _ => zipIdx_items x rows 0)]

theorem mcuItems_snd : ∀ (m : List Int) (k : Nat), (mcuItems k m).map (·.2) = m := by
  intro m; induction m with
  | nil => intro k; rfl
  | cons d ds ih => intro k; simp [mcuItems, ih]

theorem flatMap_mcuItems_snd (mcus : List (List Int)) : (mcus.flatMap (mcuItems 0)).map (·.2) = mcus.flatten := by
  induction mcus with
  | nil => rfl
  | cons m ms ih => simp [List.flatMap_cons, mcuItems_snd, ih]

/-- the MCUs of the scan, MCU row by MCU row -/
def scanRows (D : List (List (List Int))) (h w : Nat) : List (List (List Int)) :=
  (List.range h).map fun y => mcuRow w (D.map (·.getD y []))

section
variable {nc h w : Nat} {D : List (List (List Int))}

/-- the width the compressor reads off the first component's row is the width of the image -/
theorem byRow_interleave (hD : Shape nc h w D) (n1 : 1 ≤ nc) :
    (byRow D h).map interleaveRow = (scanRows D h w).map (fun r => r.flatMap (mcuItems 0)) := by
  simp only [byRow, scanRows, List.map_map]
  refine List.map_congr_left fun y hy => ?_
  rw [Function.comp_apply, Function.comp_apply, interleaveRow_eq]
  cases D with
  | nil => exact absurd hD.1 (Nat.ne_of_lt n1)
  | cons comp rest =>
    obtain ⟨c1, c2⟩ := hD.2 comp (List.mem_cons_self ..)
    rw [List.map_cons, List.headD_cons, c2 _ (getD_mem (c1 ▸ List.mem_range.1 hy) [])]

theorem scanRows_row_length : ∀ row ∈ scanRows D h w, row.length = w := by
  intro row hr
  obtain ⟨y, _, rfl⟩ := List.mem_map.1 hr
  rw [mcuRow, List.length_map, List.length_range]

theorem scanRows_mcu_length (hD : Shape nc h w D) :
    ∀ m ∈ (scanRows D h w).flatten, m.length = nc := by
  intro m hm
  obtain ⟨row, hr, hmr⟩ := List.mem_flatten.1 hm
  obtain ⟨y, _, rfl⟩ := List.mem_map.1 hr
  obtain ⟨x, _, rfl⟩ := List.mem_map.1 hmr
  rw [List.length_map, List.length_map, hD.1]

theorem scanRows_entry (hD : Shape nc h w D)
    {ci y x : Nat} (hci : ci < nc) (hy : y < h) (hx : x < w) :
    (scanRows D h w).flatten.flatten.getD ((y * w + x) * nc + ci) 0 = ((D.getD ci []).getD y []).getD x 0 := by
  rw [getD_flatten_uniform nc 0 _ (scanRows_mcu_length hD) (y * w + x) ci hci,
    getD_flatten_uniform w [] _ scanRows_row_length y x hx]
  rw [scanRows, getD_map_range _ hy, mcuRow, getD_map_range _ hx, getD_map _ _ ci [] 0 rfl,
    getD_map _ _ ci [] [] rfl]

end

theorem chunksF_flatten {α : Type} (R : Nat) (hR : 0 < R) (f : Nat) (l : List α) : l.length ≤ f →
    (chunksF R f l).flatten = l := by
  -- the cases of `chunksF`: no fuel, nothing left, a chunk of `R` cut off
  fun_induction chunksF R f l with
  | case1 l =>
    intro h
    exact (List.eq_nil_of_length_eq_zero (Nat.le_zero.1 h)).symm
  | case2 => intro _; rfl
  | case3 f r rs ih =>
    intro h
    rw [List.flatten_cons, ih (by simp only [List.length_drop, List.length_cons] at h ⊢; omega)]
    exact List.take_append_drop R (r :: rs)

theorem chunksF_map {α β : Type} (g : α → β) (R f : Nat) (l : List α) :
    chunksF R f (l.map g) = (chunksF R f l).map (List.map g) := by
  fun_induction chunksF R f l with
  | case1 => rfl
  | case2 => rfl
  | case3 f r rs ih =>
    simp only [List.map_cons, chunksF]
    rw [← List.map_cons, ← List.map_drop, ih, List.map_take]

theorem segmentsOf_go_eq (R f : Nat) (l : List (List (Nat × Int))) :
    segmentsOf.go R f l = (chunksF R f l).map List.flatten := by
  fun_induction chunksF R f l with
  | case1 => rfl
  | case2 => rfl
  | case3 f r rs ih => simp only [segmentsOf.go, List.map_cons, ih]

/-- the restart intervals of a scan are lists of whole MCUs: `R` MCU rows each, all rows when `R = 0` -/
theorem segments_mcus (R : Nat) {h w : Nat} {rowsM : List (List (List Int))} (h1 : 1 ≤ h) (hl : rowsM.length = h)
    (hw : ∀ row ∈ rowsM, row.length = w) :
    ∃ segs : List (List (List Int)),
      segmentsOf R (rowsM.map fun r => r.flatMap (mcuItems 0)) = segs.map (fun seg => seg.flatMap (mcuItems 0)) ∧
      segs.map List.length = segCounts R h w ∧ segs.flatten = rowsM.flatten ∧ segs ≠ [] := by
  subst hl
  have e1 : rowsM.map List.length = List.replicate rowsM.length w := List.map_eq_replicate_iff.2 hw
  unfold segmentsOf segCounts
  by_cases hR : R = 0
  · refine ⟨[rowsM.flatten], ?_, ?_, List.flatten_singleton, List.cons_ne_nil _ _⟩
    · rw [if_pos hR, flatten_map_flatMap]
      rfl
    · rw [if_pos hR, List.map_singleton, List.length_flatten, e1, List.sum_replicate_nat]
  · refine ⟨(chunksF R rowsM.length rowsM).map List.flatten, ?_, ?_, ?_, ?_⟩
    · rw [if_neg hR, segmentsOf_go_eq, List.length_map, chunksF_map, List.map_map, List.map_map]
      exact List.map_congr_left fun ch _ => flatten_map_flatMap (mcuItems 0) ch
    · rw [if_neg hR, ← e1, chunksF_map, List.map_map, List.map_map]
      exact List.map_congr_left fun ch _ => by simp [List.length_flatten]
    · rw [← List.flatten_flatten, chunksF_flatten R (Nat.pos_of_ne_zero hR) _ _ (Nat.le_refl _)]
    · cases rowsM with
      | nil => cases h1
      | cons r rs => exact List.cons_ne_nil _ _

theorem regroup_map (f : Int → Int) (hf : f 0 = 0) (nc h w : Nat) (flat : List Int) :
    regroup nc h w (flat.map f) = (regroup nc h w flat).map (List.map (List.map f)) := by
  simp only [regroup, List.map_map, Function.comp_def, getD_map f flat _ 0 0 hf]

theorem regroup_scanRows {nc h w : Nat} {D : List (List (List Int))} (hD : Shape nc h w D) :
    regroup nc h w (scanRows D h w).flatten.flatten = D := by
  unfold regroup
  refine map_range_eq D [] hD.1 _ fun ci hci => ?_
  obtain ⟨c1, c2⟩ := hD.2 (D.getD ci []) (getD_mem (hD.1.symm ▸ hci) [])
  refine map_range_eq (D.getD ci []) [] c1 _ fun y hy => ?_
  refine map_range_eq ((D.getD ci []).getD y []) 0 (c2 _ (getD_mem (c1.symm ▸ hy) [])) _ fun x hx => ?_
  exact scanRows_entry hD hci hy hx

/-- **the differences the decoder regroups from the bytes of a whole lossless scan** are the values `recon` of the
ones the compressor computed, entry by entry -/
theorem decoded_diffs (R : Nat) {nc h w : Nat} (h1 : 1 ≤ h) (n1 : 1 ≤ nc)
    {D : List (List (List Int))} (hD : Shape nc h w D)
    {cds : List CDerived} {dds : List DDerived} {tblOf : List Nat} (htab : TablesOK cds dds tblOf 0 nc)
    {bitss : List (List Bool)}
    (henc : (segmentsOf R ((byRow D h).map interleaveRow)).mapM (segBits cds tblOf) = some bitss) :
    ∃ segItems, decodeSegments dds tblOf nc (segCounts R h w) (splitRST (joinRST (bitss.map segmentBytes) 0) []) = some segItems ∧
      regroup nc h w (segItems.flatten.map (·.2)) = D.map (List.map (List.map recon)) := by
  obtain ⟨segs, hseg, hcnt, hflat, hne⟩ := segments_mcus R h1 (by simp [scanRows] : (scanRows D h w).length = h)
    scanRows_row_length
  rw [byRow_interleave hD n1, hseg] at henc
  have hdec := scan_roundtrip htab hne
    (fun seg hseg m hm => scanRows_mcu_length hD m (hflat ▸ List.mem_flatten.2 ⟨seg, hseg, hm⟩))
    (mapM_map_all2 _ _ _ _ henc)
  rw [hcnt] at hdec
  refine ⟨_, hdec, ?_⟩
  -- all of them together are the scan in its order, and `regroup` undoes that order
  rw [flatten_map_flatMap, flatMap_mcuItems_snd, ← List.map_flatten, ← List.map_flatten, hflat, regroup_map recon recon_zero,
    regroup_scanRows hD]

end LJT.LL
