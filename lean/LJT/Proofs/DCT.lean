import LJT.Model.DCT
import Mathlib.Data.Nat.Prime.Basic
import Mathlib.Tactic.Linarith
import Mathlib.Tactic.Ring
/-! Lemmas for C07.  The reciprocal-multiplication quantiser is round-to-nearest division: the three
branches of `compute_reciprocal` are exact on the untruncated values and nothing wraps in `W` bits.
A constant block has the one coefficient `64 x`, comes back through the zero-AC shortcuts as
`(Q q0 + 4) / 8` everywhere, and the range-limit table is the clamp there. -/
namespace LJT.DCT
open LJT.Gen.Src

/-- a divisor of a power of two lying in `[2^b, 2^(b+1))` is `2^b` -/
theorem pow_two_of_dvd {d b n : Nat} (hdvd : d ∣ 2 ^ n) (hlo : 2 ^ b ≤ d) (hhi : d < 2 ^ (b + 1)) : d = 2 ^ b := by
  obtain ⟨k, _, rfl⟩ := (Nat.dvd_prime_pow Nat.prime_two).1 hdvd
  have h1 : b ≤ k := (Nat.pow_le_pow_iff_right (by omega)).1 hlo
  have h2 : k < b + 1 := (Nat.pow_lt_pow_iff_right (by omega)).1 hhi
  have : k = b := by omega
  rw [this]

/-- the two inexact branches of `compute_reciprocal`, on the untruncated values: `n = |w| + d/2`,
`R = 2^(W + log2 d) = d * fq + fr`; with `n = d * k + s` all bounds are linear in the products named below -/
theorem recip_cases {d R n A : Nat} (hd : 0 < d) (hn : n < 2 * A) (hfq : A ≤ R / d) :
    (0 < R % d → R % d ≤ d / 2 → (n + 1) * (R / d) / R = n / d) ∧ (d / 2 < R % d → n * (R / d + 1) / R = n / d) := by
  have hR := Nat.div_add_mod R d
  have hfrd := Nat.mod_lt R hd
  generalize R / d = fq at *
  generalize R % d = fr at *
  subst hR
  have hs := Nat.mod_lt n hd
  have hn' := Nat.div_add_mod n d
  generalize n / d = k at *
  generalize n % d = s at *
  subst hn'
  have h2 : (s + 1) * fq ≤ d * fq := Nat.mul_le_mul_right fq hs
  constructor
  · intro hfr0 hfr
    have h1 : k * (2 * fr) ≤ k * d := Nat.mul_le_mul_left k (by omega)
    have h3 : fq ≤ (s + 1) * fq := Nat.le_mul_of_pos_left fq (Nat.succ_pos s)
    have h4 := Nat.zero_le (k * fr)
    apply Nat.div_eq_of_lt_le
    · linarith only [h1, h3, hn, hfq]
    · linarith only [h2, h4, hfr0]
  · intro hfr
    have h1 : k * fr ≤ k * d := Nat.mul_le_mul_left k (Nat.le_of_lt hfrd)
    have h3 : (d + 1) * (k + 1) ≤ 2 * fr * (k + 1) := Nat.mul_le_mul_right (k + 1) (by omega)
    have h4 := Nat.zero_le (s * fq)
    apply Nat.div_eq_of_lt_le
    · linarith only [h1, h4]
    · linarith only [h2, h3, hn, hfq, hs]

/-- the quotient `fq = 2A * B / d` of `compute_reciprocal` (`2A = 2^W`, `B = 2^b ≤ d < 2B`) is at least `A` -/
theorem recip_fq_ge {A B d : Nat} (hd : 0 < d) (hhi : d ≤ B * 2) : A ≤ 2 * A * B / d :=
  (Nat.le_div_iff_mul_le hd).2 (by
    rw [Nat.mul_comm 2, Nat.mul_assoc, Nat.mul_comm 2]; exact Nat.mul_le_mul_left _ hhi)

/-- ... and leaves room for the `+ 1` of the third branch in a `W`-bit word, unless `d = B` -/
theorem recip_fq_lt {X B d : Nat} (hB : B < d) (hdX : d < X) : X * B / d + 1 < X := by
  have h1 : X * (B + 1) ≤ X * d := Nat.mul_le_mul_left X hB
  have h : X * B / d < X - 1 := (Nat.div_lt_iff_lt_mul (by omega)).2 (by
    rw [Nat.sub_mul, Nat.one_mul]; rw [Nat.mul_add, Nat.mul_one] at h1; omega)
  omega

/-- `quantMag` when none of the `W`-bit fields and the `2W`-bit product wrap -/
theorem quantMag_nowrap {W m a c : Nat} (r : Nat) (hX : 2 ^ 16 ≤ 2 ^ W) (hm : m < 2 ^ W) (hc : c ≤ 32768) (ha : a < 32768) :
    quantMag W (m % 2 ^ W, c % 2 ^ W, (r : Int) - W) a = (a + c) * m / 2 ^ r := by
  have hac : a + c < 2 ^ W := by omega
  have hp : (a + c) * m < 2 ^ (2 * W) := by rw [Nat.two_mul, Nat.pow_add]; exact Nat.mul_lt_mul'' hac hm
  simp only [quantMag, Nat.mod_eq_of_lt hm, Nat.mod_eq_of_lt (Nat.lt_of_le_of_lt (Nat.le_add_left c a) hac), Nat.mod_eq_of_lt hp,
    Int.sub_add_cancel, Int.toNat_natCast]

/-- **the reciprocal quantiser is round-to-nearest division**: for every word size `W ≥ 16`,
every positive divisor and every magnitude below 2^15 -/
theorem quantMag_round (W d a : Nat) (hW : 16 ≤ W) (hd : 0 < d) (ha : a < 32768) :
    quantMag W (computeReciprocal W d) a = (a + d / 2) / d := by
  have hX : 2 ^ 16 ≤ 2 ^ W := Nat.pow_le_pow_right (by omega) hW
  unfold computeReciprocal
  by_cases h1 : d = 1
  · subst h1
    have : a < 2 ^ (2 * W) := by
      have := Nat.pow_le_pow_right (show 0 < 2 by omega) (show W ≤ 2 * W by omega); omega
    simp [quantMag, Nat.mod_eq_of_lt this]
  by_cases h16 : d > 65535
  · simp [quantMag, h1, h16, Nat.div_eq_of_lt (show a + d / 2 < d by omega)]
  rw [if_neg h1, if_neg h16]
  have hc : d / 2 + 1 ≤ 32768 := by omega
  have hA : 2 ^ W = 2 * 2 ^ (W - 1) := by rw [← Nat.pow_succ']; congr 1; omega
  have hn : a + d / 2 < 2 * 2 ^ (W - 1) := by omega
  have hm1 : 2 ^ (W - 1) < 2 ^ W := by omega
  have hdW : d < 2 ^ W := by omega
  have hlo : 2 ^ d.log2 ≤ d := Nat.log2_self_le (Nat.ne_of_gt hd)
  have hhi : d < 2 ^ (d.log2 + 1) := Nat.lt_log2_self
  generalize d.log2 = b at *
  dsimp only
  by_cases hdb : d = 2 ^ b
  · -- the divisor is a power of two: `fr = 0`, `fq = 2^W`, stored are `fq / 2 = 2^(W-1)` and the shift `r - 1`
    have hfr : 2 ^ (W + b) % d = 0 := by rw [Nat.pow_add, ← hdb]; exact Nat.mul_mod_left _ _
    have hm : 2 ^ (W + b) / d / 2 = 2 ^ (W - 1) := by
      rw [Nat.pow_add, ← hdb, Nat.mul_div_cancel _ hd, hA, Nat.mul_div_cancel_left _ (by decide)]
    have hr : 2 ^ (W + b - 1) = d * 2 ^ (W - 1) := by
      rw [Nat.add_comm W b, Nat.add_sub_assoc (Nat.le_trans (by decide) hW), Nat.pow_add, ← hdb]
    rw [if_pos hfr, hm, quantMag_nowrap _ hX hm1 (Nat.le_of_succ_le hc) ha, hr]
    exact Nat.mul_div_mul_right _ _ (Nat.pow_pos (by decide))
  have hfr0 : 2 ^ (W + b) % d ≠ 0 := fun h => hdb (pow_two_of_dvd (Nat.dvd_of_mod_eq_zero h) hlo hhi)
  have hfq : 2 ^ (W + b) / d + 1 < 2 ^ W := by
    rw [Nat.pow_add]; exact recip_fq_lt (Nat.lt_of_le_of_ne hlo (Ne.symm hdb)) hdW
  have hfqA : 2 ^ (W - 1) ≤ 2 ^ (W + b) / d := by
    rw [Nat.pow_add, hA]; exact recip_fq_ge hd (Nat.le_of_lt (by rwa [Nat.pow_succ] at hhi))
  rw [if_neg hfr0]
  split
  · next hle =>
    rw [quantMag_nowrap _ hX (Nat.lt_of_succ_lt hfq) hc ha]
    exact (recip_cases hd hn hfqA).1 (Nat.pos_of_ne_zero hfr0) hle
  · next hgt =>
    rw [quantMag_nowrap _ hX hfq (Nat.le_of_succ_le hc) ha]
    exact (recip_cases hd hn hfqA).2 (Nat.lt_of_not_le hgt)

theorem quantize8_round (W d : Nat) (w : Int) (hW : 16 ≤ W) (hd : 0 < d) (hw : w.natAbs < 32768) :
    quantize8 W d w = roundDiv d w := by
  simp only [quantize8, roundDiv, quantMag_round W d _ hW hd hw]

theorem quantize12_round (d : Nat) (w : Int) : quantize12 d w = roundDiv d w := by
  unfold quantize12 roundDiv
  by_cases h : w.natAbs + d / 2 ≥ d
  · simp [h]
  · have : (w.natAbs + d / 2) / d = 0 := Nat.div_eq_of_lt (by omega)
    simp [h, this]

theorem quantizeCoef_round (prec W q : Nat) (w : Int) (hW : 16 ≤ W) (hq : 1 ≤ q)
    (hw : prec ≤ 8 → w.natAbs < 32768) : quantizeCoef prec W q w = roundDiv (q * 8) w := by
  unfold quantizeCoef
  split
  · next hp => exact quantize8_round W _ w hW (by omega) (hw hp)
  · exact quantize12_round _ w

/-- rounding to the nearest multiple: the quantisation error is at most half a step, and never larger than the value.
With `m = |roundDiv d w|`: `|w| + d / 2 = m * d + r`, `r < d` -/
theorem roundDiv_err (d : Nat) (hd : 0 < d) (w : Int) :
    - ((d / 2 : Nat) : Int) ≤ w - (d : Int) * roundDiv d w ∧ w - (d : Int) * roundDiv d w ≤ ((d / 2 : Nat) : Int) ∧
      (w - (d : Int) * roundDiv d w).natAbs ≤ w.natAbs := by
  have hr := Nat.mod_lt (w.natAbs + d / 2) hd
  have e := Nat.div_add_mod' (w.natAbs + d / 2) d
  simp only [roundDiv]
  generalize (w.natAbs + d / 2) / d = m at *
  have h3 : m * d ≤ 2 * w.natAbs := by
    rcases Nat.eq_zero_or_pos m with rfl | h0
    · simp
    · have := Nat.le_mul_of_pos_left d h0
      omega
  rw [mul_ite, Int.mul_neg, ← Int.natCast_mul, Nat.mul_comm]
  generalize m * d = p at *
  omega

/-- the level shift is half the sample range; 128 for the 8-bit path -/
theorem center_spec (prec : Nat) :
    maxSample prec + 1 = 2 * center prec ∧ 0 < center prec ∧ (prec ≤ 8 → center prec = 128) := by
  unfold maxSample center; split <;> omega

theorem rangeLimit_clamp (prec : Nat) (z : Int)
    (h1 : - (2 * (maxSample prec + 1)) ≤ z) (h2 : z < 2 * (maxSample prec + 1)) :
    rangeLimit prec z = max 0 (min (maxSample prec) (z + center prec)) := by
  have hMC := center_spec prec
  simp only [rangeLimit]
  generalize maxSample prec = M at *
  generalize center prec = C at *
  -- the table index `z & RANGE_MASK` is `z` or `z + 4(MAX+1)`
  by_cases hz : 0 ≤ z
  · rw [Int.emod_eq_of_lt hz (by omega)]; omega
  · rw [← Int.add_mul_emod_self_left z _ 1, Int.mul_one, Int.emod_eq_of_lt (by omega) (by omega)]; omega

theorem idctColGen_dc (P : Nat) (hP : P = 1 ∨ P = 2) (c0 q0 q1 q2 q3 q4 q5 q6 q7 : Int) :
    idctColGen P [c0, 0, 0, 0, 0, 0, 0, 0] [q0, q1, q2, q3, q4, q5, q6, q7] =
      List.replicate 8 (c0 * q0 * 2 ^ P) := by
  generalize hy : c0 * q0 = y
  -- the butterfly on zeros leaves `descale (y * 2 ^ 13) (13 - P) = y * 2 ^ P`: a division of numerals for each `P`
  simp only [idctColGen, i_CONST_BITS8, hy, List.replicate, Int.zero_mul, Int.add_zero, Int.sub_zero, List.cons.injEq, and_self, and_true]
  unfold descale
  rcases hP with rfl | rfl <;> omega

theorem idctRowGen_dc (P : Nat) (hP : P = 1 ∨ P = 2) (w0 : Int) :
    idctRowGen P [w0, 0, 0, 0, 0, 0, 0, 0] = List.replicate 8 (descale w0 (P + 3)) := by
  -- left is `descale (w0 * 2 ^ 13) (13 + P + 3) = descale w0 (P + 3)`
  simp only [idctRowGen, i_CONST_BITS8, List.replicate, Int.zero_mul, Int.add_zero, Int.sub_zero, List.cons.injEq, and_self, and_true]
  unfold descale
  rcases hP with rfl | rfl <;> omega

theorem idctCol_dc (P : Nat) (Q a0 a1 a2 a3 a4 a5 a6 a7 : Int) :
    idctCol P [Q,0,0,0,0,0,0,0] [a0,a1,a2,a3,a4,a5,a6,a7] = List.replicate 8 (Q * a0 * 2 ^ P) := by
  simp [idctCol]

theorem idctRow_dc (P : Nat) (w : Int) :
    idctRow P (w :: List.replicate 7 0) = List.replicate 8 (descale w (P + 3)) := by
  simp [idctRow, List.replicate]

theorem transpose8_rows (b : List Int) :
    transpose8 (rows b) = (List.range 8).map (fun c => (List.range 8).map (fun r => b.getD (r * 8 + c) 0)) := by
  unfold transpose8 rows
  refine List.map_congr_left fun c hc => ?_
  rw [List.map_map]
  refine List.map_congr_left fun r _ => ?_
  simp [List.getD_eq_getElem?_getD, List.mem_range.1 hc]

theorem getD_dc (Q : Int) (n k : Nat) : (Q :: List.replicate n 0).getD k 0 = if k = 0 then Q else 0 := by
  cases k with
  | zero => rfl
  | succ k =>
    rw [List.getD_cons_succ, List.getD_eq_getElem?_getD, List.getElem?_replicate]
    split <;> rfl

theorem rows_const (v : Int) : rows (List.replicate 64 v) = List.replicate 8 (List.replicate 8 v) :=
  List.map_eq_replicate_iff.2 fun r hr => List.map_eq_replicate_iff.2 fun c hc => by
    rw [List.mem_range] at hr hc
    rw [List.getD_eq_getElem?_getD, List.getElem?_replicate, if_pos (by omega)]
    rfl

theorem fdct1d_true_const (P : Nat) (hP : P = 1 ∨ P = 2) (x : Int) :
    fdct1d true P (List.replicate 8 x) = (8 * x * 2 ^ P) :: List.replicate 7 0 := by
  -- left are the sum of eight `x` and `descale 0 (13 - P) = 0`
  simp only [fdct1d, f_CONST_BITS8, List.replicate, if_true, Int.sub_self, Int.zero_mul, Int.add_zero, List.cons.injEq, and_self, and_true,
    true_and]
  unfold descale
  rcases hP with rfl | rfl <;> omega

theorem fdct1d_false_const (P : Nat) (hP : P = 1 ∨ P = 2) (y : Int) :
    fdct1d false P (List.replicate 8 y) = descale (8 * y) P :: List.replicate 7 0 := by
  -- left are the sum of eight `y` under `descale _ P` and `descale 0 _ = 0` for the shifts `P`, `13 + P`
  simp only [fdct1d, f_CONST_BITS8, List.replicate, Bool.false_eq_true, if_false, Int.sub_self, Int.zero_mul, Int.add_zero, List.cons.injEq,
    and_self, and_true]
  unfold descale
  rcases hP with rfl | rfl <;> omega

theorem fdctIslow_const (P : Nat) (hP : P = 1 ∨ P = 2) (x : Int) :
    fdctIslow P (List.replicate 64 x) = (64 * x) :: List.replicate 63 0 := by
  have hd : descale (8 * (8 * x * 2 ^ P)) P = 64 * x := by
    unfold descale
    rcases hP with rfl | rfl <;> omega
  have hz : descale (8 * 0) P = 0 := by
    unfold descale
    rcases hP with rfl | rfl <;> omega
  -- row pass: eight copies of `[8x·2^P, 0, ..]`; their transpose is one constant row above seven zero rows
  have ht (a : Int) : transpose8 (List.replicate 8 (a :: List.replicate 7 0)) =
      List.replicate 8 a :: List.replicate 7 (List.replicate 8 0) := rfl
  simp only [fdctIslow, rows_const, List.map_replicate, fdct1d_true_const P hP, ht, List.map_cons,
    fdct1d_false_const P hP, hd, hz]
  rfl

theorem roundDiv_zero (d : Nat) : roundDiv d 0 = 0 := by
  rcases Nat.eq_zero_or_pos d with rfl | hd
  · rfl
  · simp [roundDiv, Nat.div_eq_of_lt (Nat.div_lt_self hd (by decide : 1 < 2))]

theorem forwardBlock_const (prec W : Nat) (hW : 16 ≤ W) (q : List Nat)
    (hpos : ∀ k, 1 ≤ q.getD k 1) (v : Int) (hv : prec ≤ 8 → (64 * (v - center prec)).natAbs < 32768) :
    forwardBlock prec W q (List.replicate 64 v) =
      roundDiv (q.getD 0 1 * 8) (64 * (v - center prec)) :: List.replicate 63 0 := by
  have hP : pass1Bits prec = 1 ∨ pass1Bits prec = 2 := by
    unfold pass1Bits; split <;> simp [f_PASS1_BITS8, f_PASS1_BITS12]
  unfold forwardBlock
  simp only [List.map_replicate, fdctIslow_const _ hP]
  rw [List.range_succ_eq_map, List.map_cons, List.map_map]
  congr 1
  · exact quantizeCoef_round prec W _ _ hW (hpos 0) hv
  · refine List.map_eq_replicate_iff.2 fun k _ => ?_
    simp only [Function.comp, getD_dc, Nat.succ_ne_zero, if_false]
    rw [quantizeCoef_round prec W _ _ hW (hpos _) (by intro _; simp), roundDiv_zero]

/-- column pass on a DC-only block: one constant workspace row above seven zero rows -/
theorem idctCols_dc (P : Nat) (Q : Int) (qi : List Int) :
    List.zipWith (idctCol P) ([Q,0,0,0,0,0,0,0] :: List.replicate 7 (List.replicate 8 0)) (transpose8 (rows qi)) =
      List.replicate 8 (Q * qi.getD 0 0 * 2 ^ P) :: List.replicate 7 (List.replicate 8 0) := by
  rw [transpose8_rows]
  simp only [List.range, List.range.loop, List.map, List.zipWith, List.replicate, idctCol_dc, Int.zero_mul]

/-- the DC path of the inverse DCT divides by 8 whatever `PASS1_BITS` is -/
theorem descale_shl (y : Int) (P : Nat) : descale (y * 2 ^ P) (P + 3) = (y + 4) / 8 := by
  have h : (0 : Int) < 2 ^ P := Int.pow_pos (by decide)
  rw [descale, show P + 3 - 1 = P + 2 from rfl, Int.pow_add, Int.pow_add, Int.mul_comm (2 ^ P) (2 ^ 3),
    Int.mul_comm (2 ^ P) (2 ^ 2), ← Int.add_mul]
  exact Int.mul_ediv_mul_of_pos_left _ _ h

theorem idctIslow_dc (prec : Nat) (Q : Int) (q : List Nat) :
    idctIslow prec (Q :: List.replicate 63 0) q =
      List.replicate 64 (rangeLimit prec ((Q * ((q.getD 0 0 : Nat) : Int) + 4) / 8)) := by
  have hc : transpose8 (rows (Q :: List.replicate 63 0)) =
      [Q,0,0,0,0,0,0,0] :: List.replicate 7 (List.replicate 8 0) := by
    simp only [transpose8_rows, getD_dc]
    rfl
  have ht (w : Int) : transpose8 (List.replicate 8 w :: List.replicate 7 (List.replicate 8 0)) =
      List.replicate 8 (w :: List.replicate 7 0) := rfl
  have hq : (q.map (fun (x : Nat) => (x : Int))).getD 0 0 = ((q.getD 0 0 : Nat) : Int) := by cases q <;> rfl
  simp only [idctIslow, hc, idctCols_dc, ht, List.map_replicate, idctRow_dc, List.flatten_replicate_replicate, hq, descale_shl]

/-- the arithmetic of the DC round trip: `v` the sample (`C` the level shift, `M` the largest sample),
`Y = Q * q0` the dequantised coefficient over 8, within half a step `4 q0` of `8 (v - C)`.  The bound is that half step
over 64, rounded up, plus one for the rounding of `(Y + 4) / 8` -/
theorem dc_roundtrip_err {C M v Y : Int} {q0 : Nat} (hMC : M + 1 = 2 * C) (hC : 0 < C) (hv0 : 0 ≤ v) (hv1 : v ≤ M)
    (e1 : -((4 * q0 : Nat) : Int) ≤ 64 * (v - C) - 8 * Y) (e2 : 64 * (v - C) - 8 * Y ≤ ((4 * q0 : Nat) : Int))
    (e3 : (64 * (v - C) - 8 * Y).natAbs ≤ (64 * (v - C)).natAbs) :
    -(2 * (M + 1)) ≤ (Y + 4) / 8 ∧ (Y + 4) / 8 < 2 * (M + 1) ∧
      (max 0 (min M ((Y + 4) / 8 + C)) - v).natAbs ≤ (q0 + 15) / 16 + 1 := by
  omega

theorem constant_block_bound (prec W : Nat) (hW : 16 ≤ W) (q : List Nat)
    (hne : q ≠ []) (hpos : ∀ k, 1 ≤ q.getD k 1) (v : Int) (hv0 : 0 ≤ v) (hv1 : v ≤ maxSample prec) :
    ∀ y ∈ roundtripBlock prec W q (List.replicate 64 v), (y - v).natAbs ≤ (q.getD 0 1 + 15) / 16 + 1 := by
  intro y hy
  obtain ⟨q0, qt, rfl⟩ := List.exists_cons_of_ne_nil hne
  have hd : 0 < q0 * 8 := Nat.mul_pos (hpos 0) (by decide)
  have hhalf : q0 * 8 / 2 = 4 * q0 := by omega
  obtain ⟨hMC, hC, h128⟩ := center_spec prec
  have hw : prec ≤ 8 → (64 * (v - center prec)).natAbs < 32768 := by intro hp; have := h128 hp; omega
  rw [roundtripBlock, forwardBlock_const prec W hW _ hpos v hw, idctIslow_dc, List.mem_replicate] at hy
  obtain ⟨_, rfl⟩ := hy
  simp only [List.getD_cons_zero]
  obtain ⟨e1, e2, e3⟩ := roundDiv_err (q0 * 8) hd (64 * (v - center prec))
  generalize roundDiv (q0 * 8) (64 * (v - center prec)) = Q at *
  have hY : ((q0 * 8 : Nat) : Int) * Q = 8 * (Q * (q0 : Int)) := by push_cast; ring
  rw [hY, hhalf] at e1 e2
  rw [hY] at e3
  obtain ⟨b1, b2, b3⟩ := dc_roundtrip_err hMC hC hv0 hv1 e1 e2 e3
  rw [rangeLimit_clamp prec _ b1 b2]
  exact b3

end LJT.DCT
