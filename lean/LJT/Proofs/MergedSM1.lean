import LJT.Model.MergedSM
import LJT.Proofs.SkipSM
/-!
The merged machine of Model/MergedSM.lean without vertical subsampling (`merged_1v_upsample`, `v = 1`): it keeps the counters
of the simple machine with one-row row groups (`Sim1`) and, call by call, delivers the same rows (`sim1_read`, `sim1_skip`,
`sim1_run`), so what is proved of the simple machine holds of it.
-/
namespace LJT.Skip

variable (c : Cfg)

def Sim1 (s : St) (m : MSt) : Prop :=
  m.y = s.y ∧ m.irow = s.irow ∧ m.bf = s.bf ∧ m.rg = s.rg ∧ m.bufRow = s.bufRow

/-- with one-row row groups the conversion buffer of the simple machine is empty between calls -/
theorem Inv.nro_one {c : Cfg} (hv : c.v = 1) {s : St} (h : Inv c s) (hy : s.y < c.H) :
    s.nro = 1 ∧ 1 ≤ s.rtg := by
  obtain ⟨a, g, r, hp, hat⟩ := h.2 hy
  have hr := hp.2.1
  cases hat with
  | row y a g r h0 => omega
  | group y a g t => exact ⟨hv, Nat.sub_pos_of_lt hy⟩
  | imcu y a t => exact ⟨hv, Nat.sub_pos_of_lt hy⟩

theorem sim1_read (hv : c.v = 1) (s : St) (m : MSt) (n : Nat) (h : Inv c s) (hs : Sim1 s m) :
    Sim1 (read c s n).1 (mread c m n).1 ∧ (mread c m n).2 = (read c s n).2 := by
  obtain ⟨y, irow, bf, rg, nro, rtg, bufRow, cbRow, cbRg⟩ := s
  obtain ⟨y', irow', bf', rg', spare, rtg', bufRow', spRow, spRg⟩ := m
  obtain ⟨rfl, rfl, rfl, rfl, rfl⟩ := hs
  by_cases h0 : c.H ≤ y'
  · simp [read, mread, h0, Sim1]
  · by_cases hn : n = 0
    · simp [read, mread, h0, hn, Sim1]
    · obtain ⟨h1, h2⟩ := h.nro_one hv (Nat.lt_of_not_le h0)
      dsimp only at h1 h2
      subst h1
      have hk : min (min 1 rtg) n = 1 := by rw [Nat.min_eq_left h2, Nat.min_eq_left (Nat.pos_of_ne_zero hn)]
      -- The two splits are the two tests both programs make: is the main buffer full, and was this the last row group of the
      -- iMCU row.  With `v = 1` and `nro = 1` the two programs unfold to the same program, which is why `simp` closes each case.
      cases bf'
      all_goals by_cases hM : c.M ≤ rg' + 1
      all_goals simp [read, mread, h0, hn, Sim1, prep, fillBuf, mfillBuf, deliver, mupsample, hv, hk, hM]

theorem sim1_skip (hv : c.v = 1) (s : St) (m : MSt) (n : Nat) (h : Inv c s) (hs : Sim1 s m) :
    Sim1 (skip c s n).1 (mskip c m n).1 ∧ (mskip c m n).2 = (skip c s n).2 := by
  obtain ⟨y, irow, bf, rg, nro, rtg, bufRow, cbRow, cbRg⟩ := s
  obtain ⟨y', irow', bf', rg', spare, rtg', bufRow', spRow, spRg⟩ := m
  obtain ⟨rfl, rfl, rfl, rfl, rfl⟩ := hs
  by_cases h0 : c.H ≤ y' + n
  · simp [skip, mskip, h0, Sim1]
  · by_cases hn : n = 0
    · subst hn
      simp [skip, mskip, show ¬ c.H ≤ y' from h0, Sim1]
    · obtain ⟨h1, h2⟩ := h.nro_one hv (Nat.lt_of_le_of_lt (Nat.le_add_right y' n) (Nat.lt_of_not_le h0))
      dsimp only at h1
      subst h1
      have hpos : 0 < n := Nat.pos_of_ne_zero hn
      -- `left`: the rows left in the current iMCU row (of `M` rows, as `v = 1`).  The splits are the tests both programs make:
      -- does the skip stay inside the iMCU row; is the main buffer full; and, beyond the iMCU row, is there a `rest` after the
      -- whole iMCU rows (`incSimple` and `mincSimple` decode an iMCU row only for `0 < rest`).  With `v = 1` nothing is read
      -- and discarded, and the two programs unfold to the same program, which is why `simp` closes each case.
      generalize hleft : (c.M - y' % c.M) % c.M = left
      by_cases hl : n < left
      · cases bf'
        all_goals simp [skip, mskip, h0, hn, Sim1, incSimple, mincSimple, jump, Nat.mod_one, readDiscard, fillBuf, mfillBuf,
          hv, hleft, hl, hpos]
      · generalize hrest : n - left - (n - left) / c.M * c.M = rest
        by_cases hr : 0 < rest
        all_goals simp [skip, mskip, h0, hn, Sim1, incSimple, mincSimple, jump, Nat.mod_one, readDiscard, fillBuf, mfillBuf,
          hv, hleft, hrest, hl, hr]

/-- **Without vertical subsampling the merged machine delivers what the simple machine delivers**, history by history. -/
theorem sim1_run (hv : c.v = 1) (calls : List Call) (s : St) (m : MSt) (h : Inv c s) (hs : Sim1 s m) :
    (mrun c m calls).2 = (run c s calls).2 := by
  induction calls generalizing s m with
  | nil => rfl
  | cons a as ih =>
    cases a with
    | rd n =>
      obtain ⟨q1, q2⟩ := sim1_read c hv s m n h hs
      show ((mread c m n).2.zipIdx m.y).map _ ++ (mrun c (mread c m n).1 as).2 =
        ((read c s n).2.zipIdx s.y).map _ ++ (run c (read c s n).1 as).2
      rw [ih (read c s n).1 (mread c m n).1 (read_ok c s n h).1 q1, q2, hs.1]
    | sk n =>
      exact ih (skip c s n).1 (mskip c m n).1 (skip_spec c s n h).1 (sim1_skip c hv s m n h hs).1

theorem sim1_init : Sim1 (init c) (minit c) := ⟨rfl, rfl, rfl, rfl, rfl⟩

end LJT.Skip
