import LJT.Proofs.ProgAC
/-! Round trip of the progressive AC *refinement* pass (T.81 G.1.2.3, figure G.7; src/jcphuff.c
`encode_mcu_AC_refine` with its EOBRUN counter and the BE / BR correction-bit buffers): the event
stream of `ProgAC.refEv` is inverted by `ProgAC.refDecBlocks` for every sequence of blocks. -/
namespace LJT.ProgAC
open LJT.Huff LJT.LL

/-- `C`: one coefficient of a band as a refinement scan sees it, the pair (magnitude `|c| >> Al`, sign `c < 0`) -/
abbrev C := Nat × Bool

def sgn (c : C) : Int := if c.2 then -1 else 1

/-- the value the decoder holds before the scan (bits above Al), in units of `p = 2^Al` -/
def prevOf (p : Int) (c : C) : Int := if c.1 ≤ 1 then 0 else sgn c * ((c.1 / 2 * 2 : Nat) : Int) * p

/-- the value after the scan -/
def newOf (p : Int) (c : C) : Int := sgn c * ((c.1 : Nat) : Int) * p

def zerosOf (seg : List C) : Nat := (seg.filter (fun c => c.1 == 0)).length

/-- correction bits of the coefficients with nonzero history, in order -/
def corrOf (seg : List C) : List Nat := (seg.filter (fun c => c.1 != 0)).map (fun c => c.1 % 2)

theorem zerosOf_append (a b : List C) : zerosOf (a ++ b) = zerosOf a + zerosOf b := by
  simp [zerosOf, List.filter_append]

theorem corrOf_append (a b : List C) : corrOf (a ++ b) = corrOf a ++ corrOf b := by
  simp [corrOf, List.filter_append]

theorem prevOf_zero (p : Int) (c : C) (h : c.1 = 0) : prevOf p c = 0 := by simp [prevOf, h]
theorem newOf_zero (p : Int) (c : C) (h : c.1 = 0) : newOf p c = 0 := by simp [newOf, h]
theorem prevOf_one (p : Int) (c : C) (h : c.1 = 1) : prevOf p c = 0 := by simp [prevOf, h]
theorem newOf_one (p : Int) (c : C) (h : c.1 = 1) : newOf p c = if c.2 then -p else p := by
  unfold newOf sgn
  rw [h]
  cases c.2 <;> simp

/-- the `if` in `prevOf` only spells out that `c.1 / 2 * 2 = 0` for `c.1 ≤ 1` -/
theorem prevOf_eq (p : Int) (c : C) : prevOf p c = sgn c * ((c.1 / 2 * 2 : Nat) : Int) * p := by
  unfold prevOf
  split
  · rw [show c.1 / 2 * 2 = 0 by omega]; simp
  · rfl

theorem prevOf_ne (p : Int) (hp : 0 < p) (c : C) (h : 2 ≤ c.1) : prevOf p c ≠ 0 := by
  rw [prevOf_eq]
  have hs : sgn c ≠ 0 := by unfold sgn; split <;> omega
  have hQ : ((c.1 / 2 * 2 : Nat) : Int) ≠ 0 := by omega
  exact Int.mul_ne_zero (Int.mul_ne_zero hs hQ) (by omega)

theorem corr_prev (p : Int) (hp : 0 < p) (c : C) (h : 2 ≤ c.1) :
    corr p (prevOf p c) (decide (c.1 % 2 = 1)) = newOf p c := by
  obtain ⟨a, neg⟩ := c
  have hm : 0 < ((a / 2 * 2 : Nat) : Int) * p := Int.mul_pos (by simp only at h; omega) hp
  have hnew : ((a : Nat) : Int) * p = ((a / 2 * 2 : Nat) : Int) * p + ((a % 2 : Nat) : Int) * p := by
    rw [← Int.add_mul, ← Int.natCast_add, Nat.div_add_mod']
  rw [prevOf_eq]
  simp only [newOf, corr, sgn, Int.mul_assoc, hnew]
  -- with `m = (a / 2 * 2) p > 0` the old value is `± m` and the new one `± (m + (a % 2) p)`
  generalize ((a / 2 * 2 : Nat) : Int) * p = m at hm ⊢
  rcases Nat.mod_two_eq_zero_or_one a with h0 | h0
  · simp [h0]
  · cases neg
    · simp [h0, Int.le_of_lt hm]
    · simp [h0, Int.not_le.2 hm, Int.neg_add, Int.sub_eq_add_neg]

theorem brEv_append (a b : List Nat) : brEv (a ++ b) = brEv a ++ brEv b := List.map_append

theorem evBits_corr_cons (code : Nat → List Bool) (c : C) (t : List C) :
    evBits code (brEv (corrOf (c :: t))) =
      if c.1 = 0 then evBits code (brEv (corrOf t)) else decide (c.1 % 2 = 1) :: evBits code (brEv (corrOf t)) := by
  by_cases h0 : c.1 = 0
  · simp [corrOf, h0]
  · simp [corrOf, brEv, evBits, natBits, codeBits, h0]

/-! Over a segment without newly-nonzero coefficients both passes of the decoder (`refTail`, `refSkip`) read one
correction bit per coefficient with history and leave the zeros alone. -/

theorem refTail_seg (code : Nat → List Bool) (p : Int) (hp : 0 < p) : ∀ (seg : List C) (X : List Bool), (∀ c ∈ seg, c.1 ≠ 1) →
    refTail p (seg.map (prevOf p)) (evBits code (brEv (corrOf seg)) ++ X) = some (seg.map (newOf p), X) := by
  intro seg
  induction seg with
  | nil => intro X _; rfl
  | cons c t ih =>
    intro X h
    obtain ⟨hc, ht⟩ := List.forall_mem_cons.1 h
    rw [evBits_corr_cons]
    by_cases h0 : c.1 = 0
    · simp only [List.map_cons, refTail, prevOf_zero p c h0, ne_eq, not_true_eq_false, if_false, if_pos h0]
      rw [ih X ht]
      simp [newOf_zero p c h0]
    · have h2 : 2 ≤ c.1 := by omega
      simp only [List.map_cons, refTail, if_neg h0, List.cons_append]
      rw [if_pos (prevOf_ne p hp c h2), ih X ht]
      simp [corr_prev p hp c h2]

/-- `refSkip` told to skip as many zeros as `s` has passes `s` and stops at the next coefficient
without history.  That coefficient is the 16th zero under a ZRL symbol and the newly-nonzero
coefficient under a (run, 1) symbol: for the decoder the two are the same step. -/
theorem refSkip_stop (code : Nat → List Bool) (p : Int) (hp : 0 < p) (w : List Int) : ∀ (s : List C) (X : List Bool),
    (∀ c ∈ s, c.1 ≠ 1) →
    refSkip p (zerosOf s) (s.map (prevOf p) ++ 0 :: w) (evBits code (brEv (corrOf s)) ++ X) =
      some (s.map (newOf p), 0 :: w, X) := by
  intro s
  induction s with
  | nil => intro X _; simp [refSkip, zerosOf, corrOf, brEv, evBits]
  | cons c t ih =>
    intro X h
    obtain ⟨hc, ht⟩ := List.forall_mem_cons.1 h
    rw [evBits_corr_cons]
    by_cases h0 : c.1 = 0
    · have hz : zerosOf (c :: t) = zerosOf t + 1 := by simp [zerosOf, h0]
      simp only [List.map_cons, List.cons_append, refSkip, prevOf_zero p c h0, ne_eq, not_true_eq_false, if_false, if_pos h0, hz,
        Nat.add_eq_zero_iff, Nat.one_ne_zero, and_false, Nat.add_sub_cancel]
      rw [ih X ht]
      simp [newOf_zero p c h0]
    · have h2 : 2 ≤ c.1 := by omega
      have hz : zerosOf (c :: t) = zerosOf t := by simp [zerosOf, h0]
      simp only [List.map_cons, List.cons_append, refSkip, if_neg h0, hz]
      rw [if_pos (prevOf_ne p hp c h2), ih X ht]
      simp [corr_prev p hp c h2]

/-! `refDec` recurses on fuel, but every call is on a shorter band: a run that succeeds is the same for any fuel
above the length of the band. -/

theorem refDec_nil (dec : Dec) (p : Int) (f : Nat) (bits : List Bool) : refDec dec p f [] bits = .ok ([], 0, bits) := by
  cases f <;> simp [refDec]

theorem refSkip_len (p : Int) (l : List Int) (r : Nat) (bits : List Bool) :
    ∀ x ∈ refSkip p r l bits, x.2.1.length ≤ l.length := by
  fun_induction refSkip p r l bits with
  | case3 r c t b rest hc ih | case5 r c t bits hc hr ih =>  -- the two branches that pass a coefficient
    intro x hx
    obtain ⟨y, hy, rfl⟩ := Option.map_eq_some_iff.1 hx
    exact Nat.le_succ_of_le (ih y hy)
  | _ => simp

theorem refDec_fuel (dec : Dec) (p : Int) (f1 f2 : Nat) (prev : List Int) (bits : List Bool) (r : List Int × Nat × List Bool)
    (h : refDec dec p f1 prev bits = .ok r) (h2 : prev.length < f2) : refDec dec p f2 prev bits = .ok r := by
  obtain ⟨g, rfl⟩ := Nat.exists_eq_add_one_of_ne_zero (Nat.ne_zero_of_lt h2)
  -- cases 1 and 3 of `refDec` return on an empty band; 11, 15 and 18 are its three branches that end in `.ok`
  -- (`he`: the band is not empty, `hd`: the symbol decoded, `hs`, `h'`, `h15`: the tests on it, `hk`: the result of
  -- `refSkip`, `hx`: the result of the recursive call); all other branches end in `.error`
  fun_induction refDec dec p f1 prev bits generalizing g r with
  | case1 prev bits he | case3 f prev bits he =>
    rw [refDec, if_pos he]
    exact h
  -- a (run, 1) symbol or a ZRL: `refSkip` stops at a coefficient, and what follows it is shorter
  | case11 f prev bits he sym hs h' b rest done z t bs hk l e b' hx hd ih
  | case15 f prev bits he sym rest hd hs h' done z t bs hk l e b' hx ih =>
    have htg : t.length < g := Nat.lt_of_succ_lt_succ (Nat.lt_of_le_of_lt (refSkip_len p _ _ _ _ hk) h2)
    obtain ⟨g, rfl⟩ := Nat.exists_eq_add_one_of_ne_zero (Nat.ne_zero_of_lt htg)
    rw [refDec, if_neg he, hd]
    simp only [hs, h', hk, ne_eq, not_false_eq_true, if_true, if_false]
    rw [ih _ hx g htg]
    exact h
  | case18 f prev bits he sym rest hd hs h15 run rest2 hr done bs ht =>  -- EOBn
    rw [refDec, if_neg he, hd]
    simp only
    rw [if_neg hs, if_neg h15, hr]
    simp only
    rw [ht]
    exact h
  | _ => cases h

/-! The encoder of a band looks ahead (`hasOne`): ZRLs are written only if a newly-nonzero coefficient follows.
The equations of `refCoefEv` below are stated by that. -/

theorem hasOne_cons (c : C) (t : List C) : hasOne (c :: t) = (c.1 == 1 || hasOne t) := by
  simp [hasOne]

theorem refCoefEv_quiet : ∀ (cs : List C) (r : Nat) (br : List Nat), hasOne cs = false →
    refCoefEv r br cs = ([], r + zerosOf cs, br ++ corrOf cs) := by
  intro cs
  induction cs with
  | nil => intro r br _; simp [refCoefEv, zerosOf, corrOf]
  | cons c t ih =>
    intro r br h
    rw [hasOne_cons, Bool.or_eq_false_iff, beq_eq_false_iff_ne] at h
    by_cases h0 : c.1 = 0
    · simp [refCoefEv, h0, ih _ _ h.2, zerosOf, corrOf]
      omega
    · have h2 : c.1 > 1 := by omega
      simp [refCoefEv, h0, h2, hasOne_cons, h, ih _ _ h.2, zerosOf, corrOf]

/-- the ZRLs the encoder writes before a nonzero coefficient may be thought of as written one by
one, as soon as 16 zeros are pending and a newly-nonzero coefficient is ahead: the first of them
takes the buffered correction bits along -/
theorem refCoefEv_zrl : ∀ (cs : List C) (r : Nat) (br : List Nat), hasOne cs = true →
    refCoefEv (r + 16) br cs = ((Ev.sym 0xF0 :: brEv br) ++ (refCoefEv r [] cs).1, (refCoefEv r [] cs).2) := by
  intro cs
  induction cs with
  | nil => intro r br h; simp [hasOne] at h
  | cons c t ih =>
    intro r br h
    by_cases h0 : c.1 = 0
    · have h' : hasOne t = true := by rw [hasOne_cons] at h; simpa [h0] using h
      simp only [refCoefEv, h0, if_true]
      rw [Nat.add_right_comm, ih (r + 1) br h']
    · have hnz : (r + 16) / 16 = r / 16 + 1 := Nat.add_div_right r (by decide)
      have hr : r + 16 - 16 * (r / 16 + 1) = r - 16 * (r / 16) := by
        rw [Nat.mul_add, Nat.mul_one, Nat.add_sub_add_right]
      have hzr : (if r / 16 = 0 then [] else (Ev.sym 0xF0 :: brEv []) ++ List.replicate (r / 16 - 1) (Ev.sym 0xF0)) =
          List.replicate (r / 16) (Ev.sym 0xF0) := by
        cases r / 16 <;> simp [brEv, List.replicate_succ]
      simp only [refCoefEv, h0, if_false, h, if_true, hnz, Nat.succ_ne_zero, Nat.add_sub_cancel, hr, hzr, ite_self]
      by_cases h2 : c.1 > 1
      · rw [if_pos h2, if_pos h2, List.append_assoc]
      · rw [if_neg h2, if_neg h2, List.append_assoc]

/-- with fewer than 16 zeros pending no ZRL is due, and the encoder need not look ahead -/
theorem refCoefEv_cons (r : Nat) (br : List Nat) (c : C) (t : List C) (hr : r < 16) :
    refCoefEv r br (c :: t) =
      if c.1 = 0 then refCoefEv (r + 1) br t
      else if c.1 > 1 then refCoefEv r (br ++ [c.1 % 2]) t
      else ((Ev.sym (r * 16 + 1) :: Ev.bits (if c.2 then 0 else 1) 1 :: brEv br) ++ (refCoefEv 0 [] t).1, (refCoefEv 0 [] t).2) := by
  simp [refCoefEv, show r / 16 = 0 by omega]

theorem hasOne_false_ne (t : List C) (h : hasOne t = false) : ∀ c ∈ t, c.1 ≠ 1 := by
  intro c hc
  simpa using List.any_eq_false.1 h c hc

/-! One band: the decoder is followed through the encoder's events symbol by symbol (`StepOK`), up to the
segment the encoder still holds back (`RefOK`). -/

/-- `evs` (emitted while the encoder went over `whole`) lets the decoder reconstruct a prefix `done`
of `whole`; the encoder is left with the pending segment `pend` described by `st = (r, br)` -/
def RefOK (code : Nat → List Bool) (dec : Dec) (p : Int) (whole : List C) (evs : List Ev) (st : Nat × List Nat) : Prop :=
  ∃ done pend, whole = done ++ pend ∧ (∀ c ∈ pend, c.1 ≠ 1) ∧ st = (zerosOf pend, corrOf pend) ∧
    ∀ (f : Nat) (X : List Bool) (l : List Int) (e : Nat) (b : List Bool), whole.length < f →
      refDec dec p f (pend.map (prevOf p)) X = .ok (l, e, b) →
      refDec dec p f (whole.map (prevOf p)) (evBits code evs ++ X) = .ok (done.map (newOf p) ++ l, e, b)

/-- a group of symbols `pre` makes the decoder reconstruct `d0` in `k` steps and go on with `whole'` -/
def StepOK (code : Nat → List Bool) (dec : Dec) (p : Int) (d0 whole' : List C) (pre : List Ev) (k : Nat) : Prop :=
  ∀ (f : Nat) (Y : List Bool) (l : List Int) (e : Nat) (b : List Bool),
    refDec dec p f (whole'.map (prevOf p)) Y = .ok (l, e, b) →
    refDec dec p (f + k) ((d0 ++ whole').map (prevOf p)) (evBits code pre ++ Y) = .ok (d0.map (newOf p) ++ l, e, b)

theorem RefOK.prefix {code : Nat → List Bool} {dec : Dec} {p : Int} {d0 whole' : List C} {pre evs' : List Ev} {k : Nat}
    {st : Nat × List Nat} (hs : StepOK code dec p d0 whole' pre k) (hk : k ≤ d0.length)
    (h : RefOK code dec p whole' evs' st) : RefOK code dec p (d0 ++ whole') (pre ++ evs') st := by
  obtain ⟨done, pend, hw, hp1, hst, hdec⟩ := h
  refine ⟨d0 ++ done, pend, by rw [hw, List.append_assoc], hp1, hst, ?_⟩
  intro f X l e b hf hcont
  have hlen : pend.length ≤ whole'.length := by rw [hw]; simp
  rw [List.length_append] at hf
  obtain ⟨g, rfl⟩ : ∃ g, f = g + k := ⟨f - k, by omega⟩
  have h1 := hdec g X l e b (by omega) (refDec_fuel dec p _ g _ X _ hcont (by simp; omega))
  rw [evBits_append, List.append_assoc, hs g _ _ e b h1, List.map_append, List.append_assoc]

section
variable {code : Nat → List Bool} {dec : Dec} {p : Int}

theorem RefOK.nil (whole : List C) (h1 : ∀ c ∈ whole, c.1 ≠ 1) :
    RefOK code dec p whole [] (zerosOf whole, corrOf whole) :=
  ⟨[], whole, rfl, h1, rfl, fun _ _ _ _ _ _ hc => hc⟩

variable (hp : 0 < p)
include hp

/-- a ZRL symbol with the buffered correction bits: the decoder refines `s` and passes its 16th zero `z` -/
theorem step_zrl (hz : Good code dec 0xF0)
    (s : List C) (z : C) (w : List C) (h1 : ∀ c ∈ s, c.1 ≠ 1) (h15 : zerosOf s = 15) (hz0 : z.1 = 0) :
    StepOK code dec p (s ++ [z]) w (Ev.sym 0xF0 :: brEv (corrOf s)) 1 := by
  intro f Y l e b hcont
  rw [List.append_assoc, List.map_append, List.singleton_append, List.map_cons, prevOf_zero p z hz0]
  simp only [evBits, List.append_assoc]
  rw [refDec, if_neg (by simp), hz]
  simp only [Nat.reduceMod, Nat.reduceDiv, ne_eq, not_true_eq_false, if_false, if_true]
  rw [← h15, refSkip_stop code p hp _ s Y h1]
  simp only
  rw [hcont]
  simp [newOf_zero p z hz0]

/-- the symbol of a newly-nonzero coefficient `c`: run, sign bit, then the buffered correction bits -/
theorem step_new (s : List C) (c : C) (w : List C) (h1 : ∀ x ∈ s, x.1 ≠ 1) (hc : c.1 = 1)
    (hg : Good code dec (zerosOf s * 16 + 1)) :
    StepOK code dec p (s ++ [c]) w
      (Ev.sym (zerosOf s * 16 + 1) :: Ev.bits (if c.2 then 0 else 1) 1 :: brEv (corrOf s)) 1 := by
  intro f Y l e b hcont
  have hsign : natBits (if c.2 = true then 0 else 1) 1 = [!c.2] := by
    cases c.2 <;> simp [natBits, codeBits]
  rw [List.append_assoc, List.map_append, List.singleton_append, List.map_cons, prevOf_one p c hc]
  simp only [evBits, List.append_assoc]
  rw [refDec, if_neg (by simp), hsign, hg]
  simp only [SeqHuff.sym_run (zerosOf s) 1 (by decide), SeqHuff.sym_size (zerosOf s) 1 (by decide),
    ne_eq, Nat.one_ne_zero, not_false_eq_true, if_true, not_true_eq_false, if_false, List.cons_append, List.nil_append]
  rw [refSkip_stop code p hp _ s Y h1]
  simp only
  rw [hcont, List.map_append, List.append_assoc, List.map_singleton, newOf_one p c hc]
  cases c.2 <;> rfl

/-- **one band of a refinement scan**: from a state in which the encoder holds the pending segment
`s`, with fewer than 16 zeros (a 16th is written out as a ZRL at once if a newly-nonzero coefficient is ahead,
and if none is ahead nothing more is written) -/
theorem ref_coefs :
    ∀ (cs s : List C), (∀ c ∈ s, c.1 ≠ 1) → zerosOf s < 16 → GoodEvs code dec (refCoefEv (zerosOf s) (corrOf s) cs).1 →
      RefOK code dec p (s ++ cs) (refCoefEv (zerosOf s) (corrOf s) cs).1 (refCoefEv (zerosOf s) (corrOf s) cs).2 := by
  intro cs
  induction cs with
  | nil =>
    intro s h1 _ _
    rw [List.append_nil]
    exact RefOK.nil s h1
  | cons c t ih =>
    intro s h1 hr16 hg
    by_cases hone : hasOne (c :: t) = true
    · rw [List.append_cons]
      rw [refCoefEv_cons _ _ c t hr16] at hg ⊢
      by_cases h0 : c.1 = 0
      · have hone' : hasOne t = true := by rw [hasOne_cons] at hone; simpa [h0] using hone
        rw [if_pos h0] at hg ⊢
        by_cases h15 : zerosOf s = 15
        · -- the 16th zero: a ZRL takes the buffered bits along, and nothing is pending
          rw [h15, refCoefEv_zrl t 0 _ hone'] at hg ⊢
          exact RefOK.prefix (step_zrl hp hg.head s c t h1 h15 h0) (by simp)
            (ih [] (by simp) (by decide) hg.append_right)
        · have hz : zerosOf (s ++ [c]) = zerosOf s + 1 := by simp [zerosOf, h0]
          have hb : corrOf (s ++ [c]) = corrOf s := by simp [corrOf, h0]
          rw [← hz, ← hb] at hg ⊢
          exact ih (s ++ [c]) (forall_mem_snoc h1 (by omega)) (by omega) hg
      · rw [if_neg h0] at hg ⊢
        by_cases ha : c.1 > 1
        · -- with history: its correction bit joins the buffer
          have hz : zerosOf (s ++ [c]) = zerosOf s := by simp [zerosOf, h0]
          have hb : corrOf (s ++ [c]) = corrOf s ++ [c.1 % 2] := by simp [corrOf, h0]
          rw [if_pos ha, ← hb] at hg ⊢
          rw [← hz] at hg hr16 ⊢
          exact ih (s ++ [c]) (forall_mem_snoc h1 (Nat.ne_of_gt ha)) hr16 hg
        · -- newly nonzero: its symbol takes the buffer along, and nothing is pending
          rw [if_neg ha] at hg ⊢
          exact RefOK.prefix (step_new hp s c t h1 (by omega) hg.head) (by simp)
            (ih [] (by simp) (by decide) hg.append_right)
    · have hq : hasOne (c :: t) = false := by simpa using hone
      rw [refCoefEv_quiet _ _ _ hq, ← zerosOf_append, ← corrOf_append]
      exact RefOK.nil _ (List.forall_mem_append.2 ⟨h1, hasOne_false_ne _ hq⟩)

end

/-! Blocks: what a band leaves pending joins an end-of-band run (`EOBRUN`), whose correction bits are buffered
(`BE`) until the run is written out. -/

theorem refCoefEv_ne_nil (cs : List C) (r : Nat) (br : List Nat) (h : hasOne cs = true) : (refCoefEv r br cs).1 ≠ [] := by
  rw [hasOne] at h
  fun_induction refCoefEv r br cs with
  | case1 => simp at h
  | case2 r br c t h0 ih => exact ih (by simpa [h0] using h)
  | case3 r br c t h0 nz zr r' br' h2 ih =>
    intro hn
    exact ih (by simpa [show ¬ c.1 = 1 by omega] using h) (List.append_eq_nil_iff.1 hn).2
  | case4 => simp

theorem pend_nonempty (b : List C) (hne : b ≠ []) (h : ∀ c ∈ b, c.1 ≠ 1) : zerosOf b > 0 ∨ corrOf b ≠ [] := by
  cases b with
  | nil => exact absurd rfl hne
  | cons c t =>
    by_cases h0 : c.1 = 0
    · left; simp [zerosOf, h0]
    · right; simp [corrOf, h0]

def prevs (p : Int) (b : List C) : List Int := b.map (prevOf p)
def news (p : Int) (b : List C) : List Int := b.map (newOf p)

/-- a pending end-of-band run as the blocks it covers: none is empty or has a newly-nonzero
coefficient.  The first may be the rest of the band the run started in: the decoder, which is told
every band by the values it holds, cannot tell the difference. -/
def IsRun (run : List (List C)) : Prop := ∀ b ∈ run, b ≠ [] ∧ ∀ c ∈ b, c.1 ≠ 1

/-- what the encoder writes once the run `(e, be)` has taken in a block: it is closed if a counter is full -/
def refAfter (e : Nat) (be : List Nat) (t : List (List C)) : List Ev :=
  if e = 0x7FFF ∨ be.length > maxBE then eobEv e ++ (brEv be ++ refEv 0 [] t) else refEv e be t

/-- the continuation the encoder writes after the symbols of a band with a newly-nonzero coefficient:
what is left of the band, if anything, starts a run -/
def refCont (st : Nat × List Nat) (t : List (List C)) : List Ev :=
  if st.1 > 0 ∨ st.2 ≠ [] then refAfter 1 st.2 t else refEv 0 [] t

theorem refEv_cons_quiet (e : Nat) (be : List Nat) (b : List C) (t : List (List C)) (hq : hasOne b = false) (hne : b ≠ []) :
    refEv e be (b :: t) = refAfter (e + 1) (be ++ corrOf b) t := by
  conv => lhs; unfold refEv
  simp only [refCoefEv_quiet b 0 [] hq, List.isEmpty_nil, if_true, Nat.zero_add, List.nil_append]
  rw [if_pos (pend_nonempty b hne (hasOne_false_ne b hq))]
  rfl

theorem refEv_cons_loud (e : Nat) (be : List Nat) (b : List C) (t : List (List C)) (h : hasOne b = true) :
    refEv e be (b :: t) = eobEv e ++ (brEv be ++ ((refCoefEv 0 [] b).1 ++ refCont (refCoefEv 0 [] b).2 t)) := by
  conv => lhs; unfold refEv
  unfold refCont refAfter
  simp only [List.isEmpty_iff, refCoefEv_ne_nil b 0 [] h, if_false, show (1 : Nat) ≠ 0x7FFF by decide, false_or]

theorem refDecBlocks_cons (dec : Dec) (p : Int) {prev l : List Int} {ps bs : List (List Int)} {e e'' : Nat} {X r : List Bool} :
    refDecBlocks dec p (prev :: ps) e X = .ok (l :: bs, e'', r) ↔
      ∃ e' X', refDecBlock dec p prev e X = .ok (l, e', X') ∧ refDecBlocks dec p ps e' X' = .ok (bs, e'', r) := by
  rw [refDecBlocks]
  cases h1 : refDecBlock dec p prev e X with
  | error m => simp
  | ok x =>
    obtain ⟨l', e', X'⟩ := x
    cases h2 : refDecBlocks dec p ps e' X' with
    | error m => simp [h2]
    | ok y =>
      obtain ⟨bs', e1, r1⟩ := y
      simp [h2, and_assoc]

/-- the EOBn symbol read at a block boundary leaves the decoder where a pending run of `e` bands does -/
theorem refDecBlock_eob {code : Nat → List Bool} {dec : Dec} (p : Int) (prev : List Int) (e : Nat) (X : List Bool)
    (hne : prev ≠ []) (h0 : 0 < e) (he : e ≤ 0x7FFF) (hg : GoodEvs code dec (eobEv e)) :
    refDecBlock dec p prev 0 (evBits code (eobEv e) ++ X) = refDecBlock dec p prev e X := by
  have hemp : prev.isEmpty = false := by cases prev <;> simp at hne ⊢
  obtain ⟨s, bits', hd, hm, h15, hrd⟩ := eob_read e (Nat.ne_of_gt h0) he hg X
  unfold refDecBlock
  rw [if_neg (Nat.lt_irrefl 0), if_pos h0, refDec, hemp]
  simp only [Bool.false_eq_true, if_false]
  rw [hd]
  simp only [hm, ne_eq, not_true_eq_false, if_false]
  rw [if_neg (Nat.ne_of_lt h15), hrd]

/-- **a refinement scan decoded from any encoder state**: the encoder holds a run of `run.length`
blocks with all their correction bits buffered, the decoder stands before them at a block boundary.
The block procedure run over the blocks of the run and `t` returns their new values and ends with
no pending run. -/
def RefSeqOK (code : Nat → List Bool) (dec : Dec) (p : Int) (t : List (List C)) : Prop :=
  ∀ (run : List (List C)) (rest : List Bool), IsRun run → run.length < 0x7FFF →
    GoodEvs code dec (refEv run.length (corrOf run.flatten) t) →
    refDecBlocks dec p ((run ++ t).map (prevs p)) 0 (evBits code (refEv run.length (corrOf run.flatten) t) ++ rest) =
      .ok ((run ++ t).map (news p), 0, rest)

theorem RefSeqOK.scan {code : Nat → List Bool} {dec : Dec} {p : Int} {t : List (List C)} (h : RefSeqOK code dec p t)
    (rest : List Bool) (hg : GoodEvs code dec (refEv 0 [] t)) :
    refDecBlocks dec p (t.map (prevs p)) 0 (evBits code (refEv 0 [] t) ++ rest) = .ok (t.map (news p), 0, rest) :=
  h [] rest (fun _ hb => nomatch hb) (by decide) hg

section
variable {code : Nat → List Bool} {dec : Dec} {p : Int} (hp : 0 < p)
include hp

theorem refDecBlocks_run : ∀ (fulls : List (List C)) (ps : List (List Int)) (Y : List Bool) (bs : List (List Int))
    (e' : Nat) (b' : List Bool), (∀ b ∈ fulls, ∀ c ∈ b, c.1 ≠ 1) → refDecBlocks dec p ps 0 Y = .ok (bs, e', b') →
    refDecBlocks dec p (fulls.map (prevs p) ++ ps) fulls.length (evBits code (brEv (corrOf fulls.flatten)) ++ Y) =
      .ok (fulls.map (news p) ++ bs, e', b') := by
  intro fulls
  induction fulls with
  | nil => intro ps Y bs e' b' _ h; exact h
  | cons b t ih =>
    intro ps Y bs e' b' h1 h
    rw [List.flatten_cons, corrOf_append, brEv_append, evBits_append, List.append_assoc]
    refine (refDecBlocks_cons dec p).2 ⟨t.length, _, ?_, ih ps Y bs e' b' (fun x hx => h1 x (by simp [hx])) h⟩
    unfold refDecBlock prevs
    rw [List.length_cons, if_pos (Nat.succ_pos _), refTail_seg code p hp b _ (h1 b (by simp))]
    rfl

/-- **closing a run**: the pending run is written out (EOBn, then all buffered correction bits); the
decoder passes the blocks the run covers and goes on with `bl` -/
theorem ref_close (run bl : List (List C)) (evs : List Ev) (rest : List Bool) (hr : IsRun run) (he : run.length ≤ 0x7FFF)
    (hg : GoodEvs code dec (eobEv run.length ++ (brEv (corrOf run.flatten) ++ evs)))
    (hbl : refDecBlocks dec p (bl.map (prevs p)) 0 (evBits code evs ++ rest) = .ok (bl.map (news p), 0, rest)) :
    refDecBlocks dec p ((run ++ bl).map (prevs p)) 0
      (evBits code (eobEv run.length ++ (brEv (corrOf run.flatten) ++ evs)) ++ rest) = .ok ((run ++ bl).map (news p), 0, rest) := by
  have hrun := refDecBlocks_run (code := code) hp run _ _ _ 0 rest (fun b hb => (hr b hb).2) hbl
  rw [evBits_append, evBits_append, List.append_assoc, List.append_assoc, List.map_append, List.map_append]
  cases run with
  | nil =>
    rw [List.length_nil, eobEv_zero]
    exact hrun
  | cons seg fulls =>
    have hne : prevs p seg ≠ [] := fun h => (hr seg List.mem_cons_self).1 (List.map_eq_nil_iff.1 h)
    rw [List.map_cons, List.cons_append, refDecBlocks,
      refDecBlock_eob p _ (seg :: fulls).length _ hne (Nat.succ_pos _) he hg.append_left]
    rwa [List.map_cons, List.cons_append, refDecBlocks] at hrun

theorem RefSeqOK.after {t : List (List C)} (h : RefSeqOK code dec p t) (run : List (List C)) (rest : List Bool)
    (hr : IsRun run) (he : run.length ≤ 0x7FFF) (hg : GoodEvs code dec (refAfter run.length (corrOf run.flatten) t)) :
    refDecBlocks dec p ((run ++ t).map (prevs p)) 0 (evBits code (refAfter run.length (corrOf run.flatten) t) ++ rest) =
      .ok ((run ++ t).map (news p), 0, rest) := by
  unfold refAfter at hg ⊢
  by_cases hc : run.length = 0x7FFF ∨ (corrOf run.flatten).length > maxBE
  · rw [if_pos hc] at hg ⊢
    exact ref_close hp run t _ rest hr he hg (h.scan rest hg.append_right.append_right)
  · rw [if_neg hc] at hg ⊢
    exact h run rest hr (by omega) hg

/-- a band whose symbols have been decoded, and what the encoder writes next: what is left of the band starts a run
as a block of its own (`IsRun`), and the encoder goes on as after any run that has just taken in a block -/
theorem RefOK.cont {b : List C} {evs : List Ev} {st : Nat × List Nat} {t : List (List C)} (h : RefOK code dec p b evs st)
    (iht : RefSeqOK code dec p t) (rest : List Bool) (hg : GoodEvs code dec (refCont st t)) :
    refDecBlocks dec p ((b :: t).map (prevs p)) 0 (evBits code evs ++ (evBits code (refCont st t) ++ rest)) =
      .ok ((b :: t).map (news p), 0, rest) := by
  obtain ⟨done, pend, rfl, hp1, rfl, hdec⟩ := h
  have key : ∀ X e' X', refDecBlock dec p (prevs p pend) 0 X = .ok (news p pend, e', X') →
      refDecBlock dec p (prevs p (done ++ pend)) 0 (evBits code evs ++ X) = .ok (news p (done ++ pend), e', X') := by
    intro X e' X' hd
    unfold refDecBlock prevs at hd ⊢
    rw [if_neg (Nat.lt_irrefl 0), List.length_map] at hd ⊢
    rw [hdec _ X _ e' X' (by omega) (refDec_fuel dec p _ _ _ X _ hd (by simp; omega)), news, news, List.map_append]
  by_cases hpe : pend = []
  · subst hpe
    exact (refDecBlocks_cons dec p).2 ⟨0, _, key _ 0 _ rfl, iht.scan rest hg⟩
  · have hrun : IsRun [pend] := fun s hs => List.mem_singleton.1 hs ▸ ⟨hpe, hp1⟩
    rw [refCont, if_pos (pend_nonempty pend hpe hp1)] at hg ⊢
    have H := iht.after hp [pend] rest hrun (by simp) (by rwa [List.flatten_singleton])
    rw [List.flatten_singleton] at H
    obtain ⟨e', X', hd, hr⟩ := (refDecBlocks_cons dec p).1 H
    exact (refDecBlocks_cons dec p).2 ⟨e', X', key _ e' X' hd, hr⟩

/-- every refinement scan is decoded, from any encoder state: by induction over the blocks, a band without a
newly-nonzero coefficient joining the pending run and any other band closing it -/
theorem ref_blocks : ∀ t : List (List C), (∀ b ∈ t, b ≠ []) → RefSeqOK code dec p t := by
  intro t
  induction t with
  | nil =>
    intro _ run rest hr he hg
    have := ref_close hp run [] [] rest hr (Nat.le_of_lt he) (by simpa [refEv] using hg) rfl
    simpa [refEv, evBits] using this
  | cons b t ih =>
    intro hwf run rest hr he hg
    have hbne : b ≠ [] := hwf b (by simp)
    have iht := ih (fun x hx => hwf x (by simp [hx]))
    by_cases hone : hasOne b = true
    · -- a band with a newly-nonzero coefficient: the run is closed, then come the symbols of the band
      rw [refEv_cons_loud _ _ b t hone] at hg ⊢
      have hb : RefOK code dec p b (refCoefEv 0 [] b).1 (refCoefEv 0 [] b).2 :=
        ref_coefs hp b [] (by simp) (by decide) hg.append_right.append_right.append_left
      refine ref_close hp run (b :: t) _ rest hr (Nat.le_of_lt he) hg ?_
      rw [evBits_append, List.append_assoc]
      exact hb.cont hp iht rest hg.append_right.append_right.append_right
    · -- a band without one joins the run
      have hq : hasOne b = false := by simpa using hone
      rw [refEv_cons_quiet _ _ b t hq hbne] at hg ⊢
      have hrun : IsRun (run ++ [b]) := forall_mem_snoc hr ⟨hbne, hasOne_false_ne b hq⟩
      have hlen : (run ++ [b]).length ≤ 0x7FFF := by
        rw [List.length_append, List.length_singleton]
        omega
      have := iht.after hp (run ++ [b]) rest hrun hlen
        (by simpa [corrOf_append] using hg)
      simpa [corrOf_append] using this

end

end LJT.ProgAC
