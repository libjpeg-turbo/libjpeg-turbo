import LJT.Model.CopyOpt
/-! The copy option alone decides which markers a transform outputs (C16): the filter of
`jcopy_markers_execute` keeps what the option documents, and `jcopy_markers_setup` has asked for all
of that to be saved, so the save settings earlier transforms left on the source object drop out. -/
namespace LJT.CopyOpt

/-- among COM and APPn markers, the filter of `jcopy_markers_execute` lets through what the option documents ... -/
theorem execKeeps_eq (o : Opt) (wj wa : Bool) (m : Nat × List Nat) (hm : m.1 = COM ∨ isAPPn m.1 = true) :
    execKeeps o wj wa m = (documented o m && !(wj && isJFIF m) && !(wa && isAdobe m)) := by
  have hd : (m.1 == COM || isAPPn m.1) = true := by
    rcases hm with h | h
    · rw [h]; rfl
    · rw [h, Bool.or_true]
  cases o <;> simp only [execKeeps, documented, hd, Bool.true_and]

/-- ... and `jcopy_markers_setup` has asked for all of that to be saved, so that the save settings left by
earlier transforms make no difference -/
theorem setupAdds_of_documented (o : Opt) (m : Nat × List Nat) (h : documented o m = true) : setupAdds o m.1 = true := by
  cases o <;> simp_all [documented, setupAdds]

theorem transform_spec (saved : Nat → Bool) (o : Opt) (wj wa : Bool) (src : List (Nat × List Nat))
    (hsrc : ∀ m ∈ src, m.1 = COM ∨ isAPPn m.1 = true) :
    transform saved o wj wa src =
      src.filter (fun m => documented o m && !(wj && isJFIF m) && !(wa && isAdobe m)) := by
  unfold transform
  rw [List.filter_filter]
  apply List.filter_congr
  intro m hm
  rw [execKeeps_eq o wj wa m (hsrc m hm), setup]
  cases hd : documented o m
  · rfl
  · rw [setupAdds_of_documented o m hd, Bool.or_true, Bool.and_true]

end LJT.CopyOpt
