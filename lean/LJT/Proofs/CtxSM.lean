import LJT.Model.CtxSM
import LJT.Proofs.RowMachine
/-!
The context-row machine of Model/CtxSM.lean.  The states of its main controller between calls are written as functions of
the position (`procG` .. `readyAt`), with one equation of `cprocess` per branch on those states; the invariant `CAt` says that
the state is one of them.  The skip needs from the invariant only where `output_iMCU_row` starts (`CAt.boundary`).
-/
namespace LJT.Skip

variable (c : Cfg)

theorem cruns : Runs CSt.y (cread c) (cskip c) (cstep c) (crun c) (creadDiscard c) :=
  ⟨fun _ _ => rfl, fun _ _ => rfl, fun _ => rfl, fun _ _ _ => rfl, fun _ => rfl, fun _ _ => rfl⟩

theorem cups_y (s : CSt) (room : Nat) : (cups c s room).1.y = s.y := by
  simp only [cups, apply_ite CSt.y, ite_self]

theorem cprocess_y (s : CSt) (n : Nat) : (cprocess c s n).1.y = s.y := by
  simp only [cprocess, cproc, cfill, cprep, apply_ite Prod.fst, apply_ite CSt.y, cups_y, ite_self]

theorem lt_T_iff (hL : 0 < c.M * c.v) (a : Nat) : a < c.T ↔ lineOf c a 0 0 < c.H := by
  rw [Cfg.T, Nat.lt_iff_add_one_le, Nat.le_div_iff_mul_le hL, Nat.succ_mul]
  simp only [lineOf, Nat.zero_mul, Nat.add_zero]
  omega

/-- the row groups counted for `m` rows hold them -/
theorem groups_cover {m v : Nat} (hv : 0 < v) : m ≤ ((m - 1) / v + 1) * v := by
  have := (div_rest (m - 1) hv).2
  rw [Nat.succ_mul]
  omega

/-- a row group with two more to come in the iMCU row of `L` rows: more than one row group is left -/
theorem not_last_group {x r v L : Nat} (hr : r < v) (h : x + v + v ≤ L) : ¬ L - (x + r) < v := by
  omega

/-- `set_bottom_pointers`: the last iMCU row has between 1 and `M` real row groups, and after the last of them the image
is over -/
theorem bottomAvail_spec (hM : 0 < c.M) (hv : 0 < c.v) :
    1 ≤ c.bottomAvail ∧ c.bottomAvail ≤ c.M ∧ ∀ a, a + 1 = c.T → c.H ≤ lineOf c a c.bottomAvail 0 := by
  have hL : 0 < c.M * c.v := Nat.mul_pos hM hv
  have hml := Nat.mod_lt c.H hL
  generalize hm : (if c.H % (c.M * c.v) = 0 then c.M * c.v else c.H % (c.M * c.v)) = m
  have hb : c.bottomAvail = (m - 1) / c.v + 1 := by rw [← hm]; rfl
  have m1 : 1 ≤ m ∧ m ≤ c.M * c.v := by
    rw [← hm]
    split <;> omega
  rw [hb]
  refine ⟨Nat.le_add_left 1 _, (Nat.div_lt_iff_lt_mul hv).2 (Nat.lt_of_lt_of_le (Nat.sub_lt m1.1 Nat.one_pos) m1.2),
    fun a hT => ?_⟩
  have h1 : lineOf c a 0 0 < c.H := (lt_T_iff c hL a).1 (hT ▸ Nat.lt_succ_self a)
  have h2 : c.H ≤ lineOf c a 0 0 + c.M * c.v := by
    rw [← Nat.one_mul (c.M * c.v), ← lineOf_add]
    exact Nat.le_of_not_lt fun h => Nat.lt_irrefl c.T (hT ▸ (lt_T_iff c hL (a + 1)).2 h)
  rw [lineOf_eq c a _ 0, Nat.add_zero]
  -- the image ends `x` rows into iMCU row `a`, and `m` is `x`
  obtain ⟨x, hx⟩ : ∃ x, c.H = lineOf c a 0 0 + x := ⟨_, (Nat.add_sub_cancel' (Nat.le_of_lt h1)).symm⟩
  have x1 : 1 ≤ x ∧ x ≤ c.M * c.v := ⟨Nat.lt_add_right_iff_pos.mp (hx ▸ h1), Nat.le_of_add_le_add_left (hx ▸ h2)⟩
  have hxm : c.H % (c.M * c.v) = x % (c.M * c.v) := by
    rw [hx, lineOf, Nat.zero_mul, Nat.add_zero, Nat.add_comm, Nat.add_mul_mod_self_right]
  have hmx : m = x := by
    by_cases hxL : x = c.M * c.v
    · rw [hxm, hxL, Nat.mod_self, if_pos rfl] at hm
      exact hm.symm.trans hxL.symm
    · rw [hxm, Nat.mod_eq_of_lt (Nat.lt_of_le_of_ne x1.2 hxL), if_neg (Nat.ne_of_gt x1.1)] at hm
      exact hm.symm
  rw [hx]
  exact Nat.add_le_add_left (hmx ▸ groups_cover hv) _

/-- number of real row groups of iMCU row `a` that are processed before the postponed one -/
def availOf (a : Nat) : Nat := if a + 1 = c.T then c.bottomAvail else c.M - 1

/-! The states of the main controller and the upsampler between calls (and, with `r = 0` in `procR` and `postR`, right
after the conversion buffer has been filled), as functions of the position.  `t` supplies `output_scanline`,
`rows_to_go`, `whichptr` and the fields whose value is of no interest in the state. -/

/-- CTX_PROCESS_IMCU on iMCU row `a`, before row group `g` -/
def procG (a g : Nat) (t : CSt) : CSt :=
  { t with irow := a + 1, ictr := a + 1, bf := true, curRow := a, cs := 1, rg := g, avail := availOf c a, nro := c.v }

/-- the same with row group `(a, g)` in the conversion buffer, `r` rows of it delivered -/
def procR (a g r : Nat) (t : CSt) : CSt :=
  { procG c a g t with nro := r, cbRow := a, cbRg := g }

/-- CTX_POSTPONED_ROW: the last row group of iMCU row `a` is postponed, iMCU row `a + 1` not decoded yet -/
def pendAt (a : Nat) (t : CSt) : CSt :=
  { t with irow := a + 1, ictr := a + 1, bf := false, cs := 2, rg := c.M + 1, avail := c.M + 2, postRow := a, nro := c.v }

/-- the same with iMCU row `a + 1` decoded and the postponed row group in the conversion buffer, `r` rows of it delivered -/
def postR (a r : Nat) (t : CSt) : CSt :=
  { t with irow := a + 1 + 1, ictr := a + 1 + 1, bf := true, curRow := a + 1, cs := 2, rg := c.M + 1, avail := c.M + 2,
           postRow := a, nro := r, cbRow := a, cbRg := c.M - 1 }

/-- CTX_PREPARE_FOR_IMCU before iMCU row `a`, nothing of it decoded -/
def freshAt (a : Nat) (t : CSt) : CSt :=
  { t with irow := a, ictr := a, bf := false, cs := 0, nro := c.v }

/-- the same with iMCU row `a` decoded -/
def readyAt (a : Nat) (t : CSt) : CSt :=
  { t with irow := a + 1, ictr := a + 1, bf := true, curRow := a, cs := 0, nro := c.v }

section
variable (hv : 0 < c.v)
include hv

theorem cprocess_procG (a g n : Nat) (t : CSt) : cprocess c (procG c a g t) n = cprocess c (procR c a g 0 t) n := by
  simp [cprocess, cfill, cproc, cups, procG, procR, Nat.not_le.mpr hv]

theorem cprocess_ready (a n : Nat) (t : CSt) : cprocess c (readyAt c a t) n = cprocess c (procR c a 0 0 t) n := by
  rw [← cprocess_procG c hv]
  simp [cprocess, cfill, readyAt, cprep, procG, availOf]

theorem cprocess_fresh (a n : Nat) (t : CSt) : cprocess c (freshAt c a t) n = cprocess c (procR c a 0 0 t) n := by
  rw [← cprocess_ready c hv]
  simp [cprocess, cfill, freshAt, readyAt]

theorem cprocess_pend (a n : Nat) (t : CSt) : cprocess c (pendAt c a t) n = cprocess c (postR c a 0 t) n := by
  simp [cprocess, cfill, cups, pendAt, postR, Nat.not_le.mpr hv]

end

section
variable {a g r n k : Nat} {t : CSt} (hk : min (min (c.v - r) t.rtg) n = k)
include hk

theorem cproc_row (h : r + k < c.v) (hg : g < availOf c a) :
    cprocess c (procR c a g r t) n = (procR c a g (r + k) { t with rtg := t.rtg - k }, groupRows a g r k) := by
  have hr : r < c.v := Nat.lt_of_le_of_lt (Nat.le_add_right r k) h
  simp [cprocess, cfill, cproc, cups, procG, procR, groupRows, Nat.not_le.mpr hr, hk, Nat.not_le.mpr h, hg]

theorem cproc_group (hr : r < c.v) (h : r + k = c.v) (hg : g + 1 < availOf c a) :
    cprocess c (procR c a g r t) n =
      (procG c a (g + 1) { procR c a g r t with rtg := t.rtg - k }, groupRows a g r k) := by
  simp [cprocess, cfill, cproc, cups, procG, procR, groupRows, Nat.not_le.mpr hr, hk, h, hg]

/-- the last row group before the postponed one is done: switch to the other pointer list -/
theorem cproc_last (hr : r < c.v) (h : r + k = c.v) (hg : ¬ g + 1 < availOf c a) :
    cprocess c (procR c a g r t) n =
      (pendAt c a { procR c a g r t with rtg := t.rtg - k, which := 1 - t.which }, groupRows a g r k) := by
  simp [cprocess, cfill, cproc, cups, procG, procR, pendAt, groupRows, Nat.not_le.mpr hr, hk, h, hg]

theorem cpost_row (h : r + k < c.v) :
    cprocess c (postR c a r t) n = (postR c a (r + k) { t with rtg := t.rtg - k }, groupRows a (c.M - 1) r k) := by
  have hr : r < c.v := Nat.lt_of_le_of_lt (Nat.le_add_right r k) h
  simp [cprocess, cfill, cups, postR, groupRows, Nat.not_le.mpr hr, hk, Nat.not_le.mpr h]

/-- the postponed row group is done and the caller's buffer is full -/
theorem cpost_done (hr : r < c.v) (h : r + k = c.v) (hn : n ≤ k) :
    cprocess c (postR c a r t) n =
      (readyAt c (a + 1) { postR c a r t with rtg := t.rtg - k, rg := c.M + 1 + 1 }, groupRows a (c.M - 1) r k) := by
  simp [cprocess, cfill, cups, postR, readyAt, groupRows, Nat.not_le.mpr hr, hk, h, hn]

/-- the postponed row group is done and there is room for more: what follows in the same call is what the next call
would do -/
theorem cpost_next (hr : r < c.v) (h : r + k = c.v) (hn : ¬ n ≤ k) :
    cprocess c (postR c a r t) n =
      let next := cprocess c (readyAt c (a + 1) { postR c a r t with rtg := t.rtg - k, rg := c.M + 1 + 1 }) (n - k)
      (next.1, groupRows a (c.M - 1) r k ++ next.2) := by
  simp [cprocess, cfill, cups, postR, readyAt, groupRows, Nat.not_le.mpr hr, hk, h, hn]

end

/-- the invariant of the context-row machine at position `(a, g, r)` -/
inductive CAt : CSt → Nat → Nat → Nat → Prop
  | procG (a g : Nat) (t : CSt) : g < availOf c a → 0 < g → CAt (procG c a g t) a g 0
  | procR (a g r : Nat) (t : CSt) : g < availOf c a → 0 < r → CAt (procR c a g r t) a g r
  | pend (a : Nat) (t : CSt) : a + 1 < c.T → CAt (pendAt c a t) a (c.M - 1) 0
  | postR (a r : Nat) (t : CSt) : a + 1 < c.T → 0 < r → CAt (postR c a r t) a (c.M - 1) r
  | fresh (a : Nat) (t : CSt) : CAt (freshAt c a t) a 0 0
  | ready (a : Nat) (t : CSt) : CAt (readyAt c a t) a 0 0

theorem CAt.frame {c : Cfg} {s : CSt} {a g r : Nat} (h : CAt c s a g r) (y rtg : Nat) : CAt c { s with y := y, rtg := rtg } a g r := by
  cases h with
  | procG a g t hg h0 => exact .procG a g { t with y := y, rtg := rtg } hg h0
  | procR a g r t hg hr => exact .procR a g r { t with y := y, rtg := rtg } hg hr
  | pend a t hT => exact .pend a { t with y := y, rtg := rtg } hT
  | postR a r t hT hr => exact .postR a r { t with y := y, rtg := rtg } hT hr
  | fresh a t => exact .fresh a { t with y := y, rtg := rtg }
  | ready a t => exact .ready a { t with y := y, rtg := rtg }

theorem CAt.ictr {c : Cfg} {s : CSt} {a g r : Nat} (h : CAt c s a g r) : s.ictr = s.irow := by
  cases h <;> rfl

/-- the invariant about scanline `y` (`output_scanline` itself is advanced only after `process_data` has returned);
`rows_to_go` is `d` rows behind (inside a skip) -/
def CInvY (s : CSt) (y d : Nat) : Prop :=
  y ≤ c.H ∧ (y < c.H → ∃ a g r, PosAt c y a g r ∧ s.rtg = c.H - y + d ∧ CAt c s a g r)

/-- the invariant about `output_scanline`; between API calls `d = 0` -/
def CInv (s : CSt) (d : Nat) : Prop := CInvY c s s.y d

theorem cinit_inv (hM : 0 < c.M) (hv : 0 < c.v) : CInv c (cinit c) 0 :=
  ⟨Nat.zero_le _, fun _ => ⟨0, 0, 0, ⟨hM, hv, (lineOf_zero c).symm⟩, rfl, .fresh 0 (cinit c)⟩⟩

theorem CInv.set_rtg {c : Cfg} {s : CSt} {d : Nat} (h : CInv c s d) : CInv c { s with rtg := c.H - s.y } 0 :=
  ⟨h.1, fun hy => let ⟨a, g, r, hp, _, hat⟩ := h.2 hy; ⟨a, g, r, hp, rfl, hat.frame s.y _⟩⟩

/-- what a call of the main controller at scanline `y` with room for `n` rows has to have done: delivered a read's worth of
the rows from `y` on and left the invariant about the scanline behind them -/
def Delivered (y n d : Nat) (res : CSt × List Prov) : Prop :=
  ∃ y', ReadOK c y n res.2 y' ∧ CInvY c res.1 y' d

section
variable (hM : 2 ≤ c.M) (hv : 0 < c.v)
include hM hv

theorem availOf_le (a : Nat) : 1 ≤ availOf c a ∧ availOf c a ≤ c.M := by
  obtain ⟨b1, b2, _⟩ := bottomAvail_spec c (by omega) hv
  unfold availOf
  split <;> omega

/-- the row groups before the postponed one are done and the image is not over: this is not the last iMCU row -/
theorem availOf_done (a : Nat) (h : lineOf c a (availOf c a) 0 < c.H) : a + 1 < c.T ∧ availOf c a = c.M - 1 := by
  have hT1 := (lt_T_iff c (Nat.mul_pos (by omega) hv) a).2 (by rw [lineOf_eq] at h; omega)
  by_cases hT : a + 1 = c.T
  · rw [availOf, if_pos hT] at h
    exact absurd h (Nat.not_lt.mpr ((bottomAvail_spec c (by omega) hv).2.2 a hT))
  · exact ⟨Nat.lt_of_le_of_ne hT1 hT, by rw [availOf, if_neg hT]⟩

/-- CTX_PROCESS_IMCU from position `(a, g, r)` -/
theorem cproc_spec {t : CSt} {room y d a g r : Nat} (hp : PosAt c y a g r) (hrtg : t.rtg = c.H - y + d)
    (hg : g < availOf c a) (hy : y < c.H) (hroom : 1 ≤ room) (hd : d = 0 ∨ room ≤ c.H - y) :
    Delivered c y room d (cprocess c (procR c a g r t) room) := by
  generalize hk : min (min (c.v - r) t.rtg) room = k
  obtain ⟨k1, k2, k4, hle, hrtg'⟩ := take_lag hk hp.2.1 hrtg hy hroom hd
  have hok := ReadOK.range hp k1 k4 k2 hle
  rcases Nat.lt_or_eq_of_le k4 with hlt | hfull
  · rw [cproc_row c hk hlt hg]
    exact ⟨y + k, hok, hle, fun _ => ⟨a, g, r + k, hp.add_r hlt, hrtg',
      .procR _ _ _ _ hg (Nat.add_pos_right r k1)⟩⟩
  · by_cases hmore : g + 1 < availOf c a
    · rw [cproc_group c hk hp.2.1 hfull hmore]
      exact ⟨y + k, hok, hle, fun _ => ⟨a, g + 1, 0,
        hp.next_group hfull (Nat.lt_of_lt_of_le hmore (availOf_le c hM hv a).2), hrtg', .procG _ _ _ hmore (Nat.succ_pos g)⟩⟩
    · rw [cproc_last c hk hp.2.1 hfull hmore]
      refine ⟨y + k, hok, hle, fun hlt => ?_⟩
      have hga : g + 1 = availOf c a := Nat.le_antisymm hg (Nat.not_lt.mp hmore)
      obtain ⟨hT, hav⟩ := availOf_done c hM hv a (by rw [← hga, lineOf_next_group c a g r k hfull, ← hp.2.2]; exact hlt)
      rw [← hga] at hav
      exact ⟨a, c.M - 1, 0, hav ▸ hp.next_group hfull (hav ▸ Nat.sub_lt (Nat.lt_of_lt_of_le Nat.zero_lt_two hM) Nat.one_pos),
        hrtg', .pend _ _ hT⟩

/-- CTX_POSTPONED_ROW (and what follows it in the same call) from position `(a, M-1, r)` with the next iMCU row decoded -/
theorem cpost_spec {t : CSt} {n y d a r : Nat} (hp : PosAt c y a (c.M - 1) r) (hrtg : t.rtg = c.H - y + d)
    (hT : a + 1 < c.T) (hy : y < c.H) (hn : 1 ≤ n) (hd : d = 0 ∨ n ≤ c.H - y) :
    Delivered c y n d (cprocess c (postR c a r t) n) := by
  generalize hk : min (min (c.v - r) t.rtg) n = k
  obtain ⟨k1, k2, k4, hle, hrtg'⟩ := take_lag hk hp.2.1 hrtg hy hn hd
  have hok := ReadOK.range hp k1 k4 k2 hle
  rcases Nat.lt_or_eq_of_le k4 with hlt | hfull
  · rw [cpost_row c hk hlt]
    exact ⟨y + k, hok, hle, fun _ => ⟨a, c.M - 1, r + k, hp.add_r hlt, hrtg',
      .postR _ _ _ hT (Nat.add_pos_right r k1)⟩⟩
  · -- the postponed row group is finished
    have hM0 : 0 < c.M := Nat.lt_of_lt_of_le Nat.zero_lt_two hM
    have hpn := hp.next_imcu hfull (Nat.sub_add_cancel hM0)
    by_cases hroom : n ≤ k
    · rw [cpost_done c hk hp.2.1 hfull hroom]
      exact ⟨y + k, hok, hle, fun _ => ⟨a + 1, 0, 0, hpn, hrtg', .ready _ _⟩⟩
    · rw [cpost_next c hk hp.2.1 hfull hroom, cprocess_ready c hv]
      obtain ⟨y', hok', hinv⟩ := cproc_spec c hM hv (t := { postR c a r t with rtg := t.rtg - k, rg := c.M + 1 + 1 })
        hpn hrtg' (availOf_le c hM hv (a + 1)).1
        (by rw [hpn.2.2]; exact (lt_T_iff c (Nat.mul_pos hM0 hv) (a + 1)).1 hT) (Nat.sub_pos_of_lt (Nat.lt_of_not_le hroom))
        (hd.imp_right fun h => by rw [Nat.sub_add_eq]; exact Nat.sub_le_sub_right h k)
      exact ⟨y', ReadOK.range_append hp k1 k4 (Nat.lt_of_not_le hroom) hok', hinv⟩

theorem cprocess_spec (s : CSt) (y n d : Nat) (hinv : CInvY c s y d) (hy : y < c.H)
    (hn : 1 ≤ n) (hd : d = 0 ∨ n ≤ c.H - y) : Delivered c y n d (cprocess c s n) := by
  obtain ⟨a, g, r, hp, hrtg, hat⟩ := hinv.2 hy
  cases hat with
  | procG a g t hg =>
    rw [cprocess_procG c hv]
    exact cproc_spec c hM hv hp hrtg hg hy hn hd
  | procR a g r t hg => exact cproc_spec c hM hv hp hrtg hg hy hn hd
  | pend a t hT =>
    rw [cprocess_pend c hv]
    exact cpost_spec c hM hv hp hrtg hT hy hn hd
  | postR a r t hT => exact cpost_spec c hM hv hp hrtg hT hy hn hd
  | fresh a t =>
    rw [cprocess_fresh c hv]
    exact cproc_spec c hM hv hp hrtg (availOf_le c hM hv a).1 hy hn hd
  | ready a t =>
    rw [cprocess_ready c hv]
    exact cproc_spec c hM hv hp hrtg (availOf_le c hM hv a).1 hy hn hd

theorem cread_spec (s : CSt) (n d : Nat) (hinv : CInv c s d) (hd : d = 0 ∨ n ≤ c.H - s.y) :
    CInv c (cread c s n).1 d ∧ ReadOK c s.y n (cread c s n).2 (cread c s n).1.y := by
  refine ReadOK.frame c CSt.y (CInv c · d) hinv hinv.1 _ rfl (fun h1 h2 => ?_)
  obtain ⟨y', hok, hi⟩ := cprocess_spec c hM hv s s.y n d hinv (Nat.lt_of_not_le h1) (Nat.pos_of_ne_zero h2) hd
  simp only [cread, h1, h2, if_false, cprocess_y, ← hok.1]
  exact ⟨⟨hi.1, fun h => let ⟨a, g, r, hp, hrtg, hat⟩ := hi.2 h; ⟨a, g, r, hp, hrtg, hat.frame _ _⟩⟩, hok⟩

theorem creadDiscard_spec (d k : Nat) (s : CSt) (h : CInv c s d) (hH : s.y + k ≤ c.H) :
    CInv c (creadDiscard c k s) d ∧ (creadDiscard c k s).y = s.y + k := by
  rw [(cruns c).discard_run]
  exact ((cruns c).one_by_one c (CInv c · d)
    (fun s h hy => cread_spec c hM hv s 1 d h (Or.inr (Nat.sub_pos_of_lt hy))) k s h hH).2

/-- where a skip that leaves the current iMCU row resumes: the first iMCU row not yet decoded, `output_iMCU_row`, starts
`leftOf` rows on, or one iMCU row further when the next one sits in the buffer already -/
theorem CAt.boundary {s : CSt} {y a g r : Nat} (hp : PosAt c y a g r) (h : CAt c s a g r)
    (hH : y + leftOf c g r < c.H) :
    lineOf c s.irow 0 0 = if leftOf c g r < c.v ∧ s.bf = true then y + leftOf c g r + c.M * c.v else y + leftOf c g r := by
  have hM0 : 0 < c.M := Nat.lt_of_lt_of_le Nat.zero_lt_two hM
  have hL : 0 < c.M * c.v := Nat.mul_pos hM0 hv
  have hMv : (c.M - 1) * c.v + c.v = c.M * c.v := by
    rw [← Nat.succ_mul, Nat.succ_eq_add_one, Nat.sub_add_cancel hM0]
  -- the iMCU row after the one that starts `leftOf` rows on
  have next : ∀ irow, lineOf c irow 0 0 = y + leftOf c g r → lineOf c (irow + 1) 0 0 = y + leftOf c g r + c.M * c.v :=
    fun irow h => by rw [lineOf_add, Nat.one_mul, h]
  -- CTX_PROCESS_IMCU inside iMCU row `a`: the row group that would be postponed is still to come
  have inside : g < availOf c a → 0 < g ∨ 0 < r → ¬ leftOf c g r < c.v := fun hg h0 hlt => by
    have hT : a + 1 < c.T := (lt_T_iff c hL (a + 1)).2 (hp.boundary h0 ▸ hH)
    rw [availOf, if_neg (Nat.ne_of_lt hT)] at hg
    have hgv := Nat.mul_le_mul_right c.v (Nat.succ_le_of_lt hg)
    rw [Nat.succ_mul] at hgv
    rw [leftOf, if_neg (by omega)] at hlt
    exact not_last_group hp.2.1 (hMv ▸ Nat.add_le_add_right hgv c.v) hlt
  cases h with
  | procG a g t hg h0 =>
    rw [if_neg fun h => inside hg (Or.inl h0) h.1]
    exact hp.boundary (Or.inl h0)
  | procR a g r t hg hr =>
    rw [if_neg fun h => inside hg (Or.inr hr) h.1]
    exact hp.boundary (Or.inr hr)
  | pend a t hT =>
    rw [if_neg (fun h => by cases h.2)]
    exact hp.boundary (Or.inl (Nat.sub_pos_of_lt hM))
  | postR a r t hT hr =>
    rw [if_pos ⟨by rw [leftOf, if_neg (by omega), ← hMv, Nat.add_sub_add_left]; exact Nat.sub_lt hv hr, rfl⟩]
    exact next (a + 1) (hp.boundary (Or.inr hr))
  | fresh a t =>
    rw [if_neg (fun h => by cases h.2)]
    exact hp.boundary_here
  | ready a t =>
    rw [if_pos ⟨hv, rfl⟩]
    exact next a hp.boundary_here

theorem cskip_spec (s : CSt) (n : Nat) (hinv : CInv c s 0) :
    CInv c (cskip c s n).1 0 ∧ (cskip c s n).2 = min n (c.H - s.y) ∧ (cskip c s n).1.y = s.y + min n (c.H - s.y) := by
  refine skip_frame CSt.y (CInv c · 0) hinv hinv.1 ⟨⟨Nat.le_refl _, fun h => absurd h (Nat.lt_irrefl _)⟩, rfl⟩ _ rfl
    (fun hlt hy _ => ?_)
  obtain ⟨a, g, r, hp, _, hat⟩ := hinv.2 hy
  -- `num_lines < lines_left_in_iMCU_row + 1 || (lines_left_in_iMCU_row < max_v_samp_factor && buffer_full &&
  -- lines_after_iMCU_row < lines_per_iMCU_row + 1)` in src/jdapistd.c: the lines are read and discarded
  by_cases hcond : n < leftOf c g r + 1 ∨ (leftOf c g r < c.v ∧ s.bf = true ∧ n - leftOf c g r < c.M * c.v + 1)
  · obtain ⟨j1, j2⟩ := creadDiscard_spec c hM hv 0 n s hinv (Nat.le_of_lt hlt)
    simp only [hp.left, hcond, if_true]
    exact ⟨j1, trivial, j2⟩
  -- otherwise the position moves to the iMCU row boundary `leftOf` rows on, and one iMCU row further "if the next iMCU row
  -- has already been entropy-decoded": that is where `output_iMCU_row` starts, and `x` rows remain to be skipped from there
  obtain ⟨hc1, hc2⟩ := not_or.mp hcond
  have hln : leftOf c g r ≤ n := Nat.le_of_succ_le (Nat.le_of_not_lt hc1)
  have hb := hat.boundary c hM hv hp (Nat.lt_of_le_of_lt (Nat.add_le_add_left hln _) hlt)
  simp only [hp.left, hcond, if_false, hat.ictr, Bool.and_eq_true, decide_eq_true_eq]
  rw [← hb]
  generalize hx : (if leftOf c g r < c.v ∧ s.bf = true then n - leftOf c g r - c.M * c.v else n - leftOf c g r) = x
  have hbx : lineOf c s.irow 0 0 + x = s.y + n := by
    rw [hb, ← hx]
    split
    · next hnx =>
      -- if the iMCU row in the buffer is skipped as a whole, there are rows to skip beyond it
      exact (rest_add (Nat.le_of_succ_le (Nat.le_of_not_lt fun h => hc2 ⟨hnx.1, hnx.2, h⟩))).trans (rest_add hln)
    · exact rest_add hln
  -- whole iMCU rows are stepped over by moving the counters, the rest is read and discarded with `rows_to_go` lagging behind
  have hM0 : 0 < c.M := Nat.lt_of_lt_of_le Nat.zero_lt_two hM
  have hL : 0 < c.M * c.v := Nat.mul_pos hM0 hv
  obtain ⟨q, hq, f1, f2, f3, f4⟩ := whole_rows (c.M * c.v) (Nat.sub_le x 1) hbx hlt
  rw [Nat.mul_div_cancel _ hL, hq]
  obtain ⟨i1, i2⟩ := creadDiscard_spec c hM hv (q * (c.M * c.v)) (x - q * (c.M * c.v))
    (freshAt c (s.irow + q) { s with y := lineOf c s.irow 0 0 + q * (c.M * c.v), rg := 0, rtg := c.H - lineOf c s.irow 0 0 })
    ⟨f1, fun _ => ⟨s.irow + q, 0, 0, ⟨hM0, hv, (lineOf_add c s.irow q).symm⟩, f4, .fresh _ _⟩⟩
    (Nat.le_of_lt f2)
  exact ⟨i1.set_rtg, trivial, i2.trans f3⟩

theorem crun_spec (calls : List Call) :
    CInv c (crun c (cinit c) calls).1 0 ∧ ∀ ip ∈ (crun c (cinit c) calls).2, RowOK c ip :=
  (cruns c).rows c (fun s _ => CInv c s 0) (fun s n _ h => cread_spec c hM hv s n 0 h (Or.inl rfl))
    (fun s n _ h => (cskip_spec c hM hv s n h).1) calls [] (cinit c) (cinit_inv c (Nat.lt_of_lt_of_le Nat.zero_lt_two hM) hv)

end

end LJT.Skip
