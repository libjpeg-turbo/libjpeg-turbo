import LJT.Proofs.SeqHuff
import LJT.Proofs.Suspend
/-!
What the Huffman decoders of a difference, a block and an MCU do with arbitrary bits, continuing `Huff.decode_reads`
and `decodeAC_reads`.  Each decodes a prefix: once it can finish on the bits it was given, more bits behind them change
neither what it decodes nor what it leaves unread (first part of `*_reads`; `Suspend.Extends`), so the MCU decoders as
units of work obey the suspension contract at the bit level (C09).  And the prefix is short (second part), which feeds
the obligation on `BUFSIZE` of src/jdhuff.c (C01): the fast path reads the source buffer without an end check and is
entered only when `BUFSIZE` bytes per block are available.  Everything stands in the namespace of the sequential coder,
also the lemmas about the lossless decoder.
-/
namespace LJT.SeqHuff
open LJT.Huff LJT.LL LJT.Suspend

/-- the bound needs a DC table that delivers categories only, and no over-long code (which `decodeBlock` refuses) -/
theorem decodeItem_reads (dd : DDerived) (bs : List Bool) (d : Int) (rest : List Bool)
    (h : decodeItem dd bs = some (d, rest)) :
    (∀ e, decodeItem dd (bs ++ e) = some (d, rest ++ e)) ∧
      ((∀ v ∈ dd.vals, v ≤ 16) → (∀ s r, decode dd bs ≠ some (s, true, r)) → bs.length ≤ rest.length + 32) := by
  rw [decodeItem_eq] at h
  obtain ⟨⟨s, f, r⟩, hd, h⟩ := Option.bind_eq_some_iff.1 h
  obtain ⟨d1, d2⟩ := decode_reads dd bs s f r hd
  dsimp only at h
  obtain ⟨hlen, h⟩ := Option.ite_none_left_eq_some.1 h
  cases h
  have hs : extraBits s ≤ r.length := Nat.le_of_not_lt hlen
  refine ⟨fun e => ?_, fun hsym hflag => ?_⟩
  · rw [decodeItem_eq, d1 e, Option.bind_some]
    dsimp only
    rw [if_neg (by rw [List.length_append]; exact Nat.not_lt.2 (Nat.le_trans hs (Nat.le_add_right _ _))),
      List.take_append_of_le_length hs, List.drop_append_of_le_length hs]
  · cases f with
    | true => exact absurd hd (hflag s r)
    | false =>
      obtain ⟨d3, hmem⟩ := d2 rfl
      have hs16 : s ≤ 16 := hmem.elim (fun e => e ▸ Nat.zero_le 16) (hsym s)
      have := extraBits_le s
      rw [List.length_drop]
      omega

/-- 1985 = 32 for the DC difference + 63 * 31 for the AC coefficients -/
theorem decodeBlock_reads (ddc dac : DDerived) (bits : List Bool) : ∀ (diff : Int) (ac : List Int) (rest : List Bool),
    decodeBlock ddc dac bits = some (diff, ac, rest) →
    (∀ e, decodeBlock ddc dac (bits ++ e) = some (diff, ac, rest ++ e)) ∧
      ((∀ v ∈ ddc.vals, v ≤ 16) → bits.length ≤ rest.length + 1985) := by
  -- case 4 is the branch that succeeds; `hno` comes from the wildcard of its first `match`: no over-long DC code
  fun_cases decodeBlock ddc dac bits with
  | case4 d r1 hi a r2 ha hno =>
    intro diff ac rest h
    cases h
    obtain ⟨i1, i2⟩ := decodeItem_reads ddc bits d r1 hi
    obtain ⟨a1, _, a3⟩ := decodeAC_reads dac 64 63 r1 a r2 ha
    refine ⟨fun e => ?_, fun hsym => by have := i2 hsym hno; omega⟩
    -- the DC symbol is there, since `decodeItem` succeeded, and it is no over-long code
    rw [decodeItem_eq] at hi
    obtain ⟨⟨s, f, r⟩, hd, -⟩ := Option.bind_eq_some_iff.1 hi
    cases f with
    | true => exact absurd hd (hno s r)
    | false =>
      unfold decodeBlock
      rw [(decode_reads ddc bits s false r hd).1 e]
      dsimp only
      rw [i1 e]
      dsimp only
      rw [a1 e]
  | _ => exact fun _ _ _ h => nomatch h

theorem decodeBlocks_append (tabs : Nat → Option (DDerived × DDerived)) (slots : List Nat) (pred : Array Int) :
    Extends (decodeBlocks tabs pred slots) := by
  intro bs e
  fun_induction decodeBlocks tabs pred slots bs with
  | case1 =>
    intro v rest h
    cases h
    rfl
  | case5 pred s slots bs ddc dac ht diff ac r1 hb dc bl r2 hr ih =>
    intro v rest h
    cases h
    rw [decodeBlocks, ht]
    dsimp only
    rw [(decodeBlock_reads ddc dac bs diff ac r1 hb).1 e]
    dsimp only
    rw [ih bl r2 hr]
  | _ => exact fun _ _ h => nomatch h

/-- `last_dc_val[]` after a list of decoded blocks -/
def predAfter (pred : Array Int) (bs : List Blk) : Array Int := bs.foldl (fun p b => p.setIfInBounds b.slot b.dc) pred

/-- `decode_mcu_slow`/`decode_mcu_fast` as a unit of work over the bit stream: saved state = the DC predictors and the
MCUs decoded so far; the MCU (blocks with the component slots `slots`) is either decoded completely - new predictors,
MCU appended, number of bits consumed - or nothing happens -/
def mcuStep (tabs : Nat → Option (DDerived × DDerived)) (slots : List Nat) :
    LJT.Suspend.Step (Array Int × List (List Blk)) Bool :=
  fun st bits =>
    match decodeBlocks tabs st.1 slots bits with
    | none => none
    | some (bs, rest) => some ((predAfter st.1 bs, st.2 ++ [bs]), bits.length - rest.length)

theorem decodeMcu_append (dds : List DDerived) (tblOf : List Nat) (k ci : Nat) : Extends (decodeMcu dds tblOf k ci) := by
  intro bs e
  fun_induction decodeMcu dds tblOf k ci bs with
  | case1 =>
    intro v rest h
    cases h
    rfl
  | case4 k ci bs d r1 hi ds r2 hr ih =>
    intro v rest h
    cases h
    rw [decodeMcu, (decodeItem_reads _ bs d r1 hi).1 e]
    dsimp only
    rw [ih ds r2 hr]
  | _ => exact fun _ _ h => nomatch h

/-- one lossless MCU (src/jdlhuff.c `decode_mcus`: one difference per component) as a unit of work over the bit stream -/
def llMcuStep (dds : List DDerived) (tblOf : List Nat) (nc : Nat) : LJT.Suspend.Step (List (List (Nat × Int))) Bool :=
  fun st bits =>
    match decodeMcu dds tblOf nc 0 bits with
    | none => none
    | some (ds, rest) => some (st ++ [ds], bits.length - rest.length)

end LJT.SeqHuff
