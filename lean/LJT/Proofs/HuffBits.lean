import LJT.Proofs.HuffMerge
import LJT.Proofs.HuffLimit
import LJT.Proofs.Huff
/-! `bits[]` as returned by `jpeg_gen_optimal_table`: from the histogram through the final tree of the merge
loop to the counters, which satisfy `BitsOK` and pass the code-space check of the derived-table builders.  The Kraft
equality of the final tree (`kr`, units of `2^-300`) becomes one about the list `codesize[]` (`genCs_spec`) and then
about the counters (`lsum_count`), in units of `2^-32` for the limiting loop (`kraft_rescale`). -/
namespace LJT.Huff

theorem lookup_of_mem {m : List (Nat × Nat)} (hnd : (m.map (·.1)).Nodup) {k d : Nat} (h : (k, d) ∈ m) :
    m.lookup k = some d := by
  obtain ⟨l1, l2, rfl⟩ := List.append_of_mem h
  rw [List.map_append, List.map_cons] at hnd
  -- no entry before `(k, d)` has the key `k`
  exact List.lookup_eq_some_iff.2 ⟨l1, l2, rfl, fun p hp => bne_iff_ne.2
    (Ne.symm ((List.nodup_append.1 hnd).2.2 p.1 (List.mem_map_of_mem hp) k (List.mem_cons_self ..)))⟩

theorem csOf_single {T : Tree} {n : Nat} (hs : (T.mem.map (·.1)).Perm (List.range n)) {p : Nat × Nat} (hp : p ∈ T.mem) :
    csOf [T] p.1 = p.2 := by
  unfold csOf
  simp only [List.flatMap_cons, List.flatMap_nil, List.append_nil]
  rw [lookup_of_mem (hs.nodup_iff.2 List.nodup_range) hp]

theorem cs_perm {T : Tree} {n : Nat} (hs : (T.mem.map (·.1)).Perm (List.range n)) :
    ((List.range n).map (csOf [T])).Perm (T.mem.map (·.2)) := by
  refine (hs.symm.map (csOf [T])).trans (List.Perm.of_eq ?_)
  rw [List.map_map]
  exact List.map_congr_left fun p hp => csOf_single hs hp

/-- the real symbols with a non-zero count, ascending -/
def nzReal (freq0 : List Nat) : List Nat := (List.range 256).filter (fun i => freq0.getD i 0 ≠ 0)

theorem freqIn_take_length (freq0 : List Nat) :
    ((freq0 ++ List.replicate (257 - freq0.length) 0).take 256).length = 256 := by
  rw [List.length_take, List.length_append, List.length_replicate]
  omega

theorem freqIn_getD_lt (freq0 : List Nat) (i : Nat) (hi : i < 256) :
    (freqIn freq0).getD i 0 = freq0.getD i 0 := by
  unfold freqIn
  simp only [List.getD_eq_getElem?_getD]
  rw [List.getElem?_append_left (by rw [freqIn_take_length]; exact hi), List.getElem?_take_of_lt hi]
  by_cases h : i < freq0.length
  · rw [List.getElem?_append_left h]
  · have hle := Nat.le_of_not_lt h
    rw [List.getElem?_append_right hle, List.getElem?_eq_none hle, List.getElem?_replicate]
    split <;> rfl

theorem freqIn_getD_256 (freq0 : List Nat) : (freqIn freq0).getD 256 0 = 1 := by
  unfold freqIn
  simp only [List.getD_eq_getElem?_getD]
  rw [List.getElem?_append_right (Nat.le_of_eq (freqIn_take_length freq0)), freqIn_take_length]
  rfl

theorem nzIndex_eq (freq0 : List Nat) : nzIndex (freqIn freq0) = nzReal freq0 ++ [256] := by
  unfold nzIndex nzReal
  rw [List.range_succ, List.filter_append]
  congr 1
  · apply List.filter_congr
    intro i hi
    rw [freqIn_getD_lt freq0 i (List.mem_range.1 hi)]
  · rw [List.filter_cons, freqIn_getD_256 freq0]; rfl

theorem nzReal_lt (freq0 : List Nat) : ∀ i ∈ nzReal freq0, i < 256 ∧ freq0.getD i 0 ≠ 0 := by
  intro i hi
  simp only [nzReal, List.mem_filter, List.mem_range, decide_eq_true_eq] at hi
  exact hi

theorem genCs_eq (freq0 : List Nat) :
    genCs freq0 = (List.range ((nzReal freq0).length + 1)).map
      (csOf (mergeAll 300 (initForest ((nzReal freq0).map (freq0.getD · 0) ++ [1]) 0))) := by
  unfold genCs
  rw [nzIndex_eq freq0, List.map_append, List.map_singleton, freqIn_getD_256 freq0,
    List.map_congr_left fun i hi => freqIn_getD_lt freq0 i (nzReal_lt freq0 i hi).1, List.length_append]
  rfl

/-- the input side for a histogram without zero entries: slot `k` is symbol `k` -/
theorem genCs_of_pos (f : List Nat) (hl : f.length ≤ 256) (hpos : ∀ x ∈ f, x ≠ 0) :
    genCs f = (List.range (f.length + 1)).map (csOf (mergeAll 300 (initForest (f ++ [1]) 0))) ∧
    nzReal f = List.range f.length := by
  have h1 : nzReal f = List.range f.length := by
    unfold nzReal
    obtain ⟨k, hk⟩ : ∃ k, 256 = f.length + k := ⟨256 - f.length, by omega⟩
    rw [hk, List.range_add, List.filter_append]
    have e1 : (List.range f.length).filter (fun i => decide (f.getD i 0 ≠ 0)) = List.range f.length := by
      apply List.filter_eq_self.2
      intro i hi
      have := hpos _ (LL.getD_mem (List.mem_range.1 hi) 0)
      simpa using this
    have e2 : ((List.range k).map (f.length + ·)).filter (fun i => decide (f.getD i 0 ≠ 0)) = [] := by
      apply List.filter_eq_nil_iff.2
      intro i hi
      obtain ⟨j, _, e⟩ := List.mem_map.1 hi
      simp [← e, List.getD_eq_getElem?_getD]
    rw [e1, e2, List.append_nil]
  rw [genCs_eq, h1, LL.map_getD_range f 0, List.length_range]
  exact ⟨rfl, rfl⟩

theorem sum_filter_ne_zero (f : Nat → Nat) : ∀ (l : List Nat),
    ((l.filter (fun i => decide (f i ≠ 0))).map f).sum = (l.map f).sum
  | [] => rfl
  | x :: xs => by
    rw [List.filter_cons, List.map_cons, List.sum_cons, ← sum_filter_ne_zero f xs]
    split
    · rfl
    · rename_i h
      rw [show f x = 0 by simpa using h, Nat.zero_add]

theorem nzReal_length (freq0 : List Nat) : (nzReal freq0).length ≤ 256 :=
  Nat.le_trans (List.length_filter_le _ _) (Nat.le_of_eq List.length_range)

theorem b0Of_f (cs : List Nat) (h : ∀ c ∈ cs, c ≤ 32) : (b0Of cs).f = fun l => cs.count l := by
  funext l
  by_cases hl : l < 33
  · exact LL.getD_map_range _ hl 0
  · rw [List.count_eq_zero.2 fun hm => hl (Nat.lt_succ_of_le (h l hm))]
    show ((List.range 33).map fun l => cs.count l).getD l 0 = 0
    rw [List.getD_eq_getElem?_getD, List.getElem?_eq_none (by simp; omega)]
    rfl

/-- **`codesize[]` after the merge loop**: one entry per slot, the entries satisfy the Kraft equality (in units of
`2^-300`), and none exceeds that of the last slot, the pseudo-symbol's. -/
theorem genCs_spec (freq0 : List Nat) (htot : ((List.range 256).map (freq0.getD · 0)).sum < FREQ_LIMIT) :
    (genCs freq0).length = (nzReal freq0).length + 1 ∧
    ((genCs freq0).map (pw 300)).sum = 2 ^ 300 ∧
    ∀ c ∈ genCs freq0, c ≤ (genCs freq0).getD (nzReal freq0).length 0 := by
  obtain ⟨T, d, hT, hs, hK, hPm, hPd⟩ := merge_result ((nzReal freq0).map (freq0.getD · 0)) (List.length_map _)
    (nzReal_length freq0) (List.forall_mem_map.2 fun i hi => Nat.pos_of_ne_zero (nzReal_lt freq0 i hi).2)
    (by rw [nzReal, sum_filter_ne_zero]; exact htot)
  rw [genCs_eq, hT]
  have hperm := cs_perm hs
  refine ⟨by rw [List.length_map, List.length_range], ?_, fun c hc => ?_⟩
  · rw [(hperm.map (pw 300)).sum_nat, List.map_map]
    exact hK
  · rw [LL.getD_map_range _ (Nat.lt_succ_self _), csOf_single hs hPm]
    obtain ⟨p, hp, rfl⟩ := List.mem_map.1 (hperm.mem_iff.1 hc)
    exact hPd p hp

/-- a depth 0 alone takes the whole code space -/
theorem depth_pos (ds : List Nat) {n : Nat} (hK : (ds.map (pw 300)).sum = 2 ^ 300) (hl : ds.length = n + 1)
    (hn : 1 ≤ n) : ∀ d ∈ ds, 1 ≤ d := by
  intro d hd
  apply Nat.pos_of_ne_zero
  rintro rfl
  -- without that 0 the list still has an entry, which takes some code space too
  obtain ⟨x, hx⟩ := List.exists_mem_of_length_pos (l := ds.erase 0)
    (by rw [List.length_erase_of_mem hd, hl]; exact hn)
  have h1 := LL.le_sum_of_mem _ _ (List.mem_map_of_mem (f := pw 300) hx)
  have h0 := pw_pos 300 x
  rw [((List.perm_cons_erase hd).map (pw 300)).sum_nat, List.map_cons, List.sum_cons, pw_zero] at hK
  omega

/-- Figure C.2 succeeds from level `l` on when the code space still free at `(code, l)`, in units of `2^-17`,
exceeds what the levels from `l` on take -/
theorem genCodes_sizesFrom_accepts (bits : List Nat) : ∀ (n l code : Nat), l + n = 17 →
    code * pw 17 l + lsum (pw 17) (fun j => bits.getD j 0) 17 < 2 ^ 17 + lsum (pw 17) (fun j => bits.getD j 0) l →
    ∃ cs, genCodes (sizesFrom bits l n) code l = some cs := by
  intro n
  induction n with
  | zero =>
    intro l code hl h
    obtain rfl : l = 17 := hl
    rw [show code * pw 17 17 = code from Nat.mul_one code] at h
    exact ⟨[], by rw [sizesFrom, genCodes_nil, if_neg (Nat.not_le.2 (Nat.lt_of_add_lt_add_right h))]⟩
  | succ n ih =>
    intro l code hl h
    have hl17 : l < 17 := by omega
    have e : lsum (pw 17) (fun j => bits.getD j 0) (l + 1) =
        lsum (pw 17) (fun j => bits.getD j 0) l + bits.getD l 0 * pw 17 l := rfl
    obtain ⟨cs', h'⟩ := ih (l + 1) ((code + bits.getD l 0) * 2) (by omega) (by
      rw [Nat.mul_assoc, ← pw_succ hl17, Nat.add_mul]
      omega)
    -- the first code of the next level fits into `l + 1` bits, so the codes of this level fit into `l`
    have hc := (genCodes_spec _ _ _ _ h').1
    rw [Nat.pow_succ] at hc
    exact ⟨_, by rw [genCodes_sizesFrom, if_neg (Nat.not_le.2 (Nat.lt_of_mul_lt_mul_right hc)), h']; rfl⟩

/-- a `bits[]` array that leaves a code point free is accepted by the validator -/
theorem codes_accepts (bits : List Nat) (h : k16 (fun j => bits.getD j 0) 17 < 2 ^ 16) :
    ∃ cs, codes bits = some cs := by
  rw [codes_eq]
  rw [k16_eq_lsum] at h
  have e := lsum_pw_eq (fun j => bits.getD j 0) (show 16 ≤ 17 by decide) 17 (Nat.le_refl _)
  rw [show pw 17 16 = 2 from rfl] at e
  exact genCodes_sizesFrom_accepts bits 16 1 0 rfl (by rw [Nat.zero_mul, Nat.zero_add]; omega)

theorem genBits_getD (cs : List Nat) (h : ∀ l, l ≤ 16 → (b3Of cs).f l ≤ 255) (l : Nat) (hl : l < 17) :
    (genBits cs).getD l 0 = (b3Of cs).f l := by
  rw [genBits, LL.getD_map_range _ hl]
  exact Nat.mod_eq_of_lt (Nat.lt_succ_of_le (h l (Nat.le_of_lt_succ hl)))

/-- **From `codesize[]` to the returned `bits[]`**, for any list of code lengths up to 32 that satisfies the Kraft
equality: counting, the limiting loop, the removal of the pseudo-symbol's count and the copy-out give `BitsOK`. -/
theorem genBits_ok (cs : List Nat) {n : Nat} (h32 : ∀ c ∈ cs, c ≤ 32) (hK : (cs.map (pw 300)).sum = 2 ^ 300)
    (hl : cs.length = n + 1) (hn : n ≤ 256) : BitsOK (fun l => (genBits cs).getD l 0) n := by
  have h33 : ∀ c ∈ cs, c < 33 := fun c hc => Nat.lt_succ_of_le (h32 c hc)
  have e := b0Of_f cs h32
  have hb : BitsOK (b3Of cs).f n := by
    refine remove_pseudo (limitAll_inv (Nat.succ_le_succ hn)
      ⟨kraft_rescale (show 32 ≤ 300 by decide) (Nat.le_refl 33) ?_, ?_⟩) hn
    · rw [e, lsum_count _ 33 _ h33]
      exact hK
    · rw [e, lsum_count _ 33 _ h33]
      exact (LL.sum_map_one cs).trans hl
  exact hb.congr fun l hl => genBits_getD _ hb.small l hl

/-- the function with `nz_index[]` written as the real symbols followed by the pseudo-symbol -/
theorem genOptimalTable_eq (freq0 : List Nat) :
    genOptimalTable freq0 = if (genCs freq0).any (· > 32) then .clenOverflow else
      .ok ⟨genBits (genCs freq0),
        (placeVals (genCs freq0) (nzReal freq0 ++ [256]) (nzReal freq0).length
          (bitPos (b0Of (genCs freq0)))).toList.take ((genBits (genCs freq0)).drop 1).sum⟩ := by
  unfold genOptimalTable
  simp only [nzIndex_eq, List.length_append, List.length_singleton, Nat.add_sub_cancel]

theorem genOptimalTable_ok {freq0 : List Nat} {t : Tbl} (h : genOptimalTable freq0 = .ok t) :
    (∀ c ∈ genCs freq0, c ≤ 32) ∧ t = ⟨genBits (genCs freq0),
      (placeVals (genCs freq0) (nzReal freq0 ++ [256]) (nzReal freq0).length
        (bitPos (b0Of (genCs freq0)))).toList.take ((genBits (genCs freq0)).drop 1).sum⟩ := by
  rw [genOptimalTable_eq] at h
  split at h
  · cases h
  · rename_i hov
    cases h
    exact ⟨fun c hc => Nat.not_lt.1 fun hgt => hov (List.any_eq_true.2 ⟨c, hc, decide_eq_true hgt⟩), rfl⟩

theorem GenResult.ok_or {r : GenResult} {Q : Tbl → Prop} (h : ∀ t, r = .ok t → Q t) :
    r = .clenOverflow ∨ ∃ t, r = .ok t ∧ Q t := by
  cases r with
  | clenOverflow => exact Or.inl rfl
  | ok t => exact Or.inr ⟨t, rfl, h t rfl⟩

theorem genOptimalTable_bits {freq0 : List Nat} {t : Tbl}
    (htot : ((List.range 256).map (freq0.getD · 0)).sum < FREQ_LIMIT) (h : genOptimalTable freq0 = .ok t) :
    t.bits.length = 17 ∧ BitsOK (fun l => t.bits.getD l 0) (nzReal freq0).length ∧ ∃ cs, codes t.bits = some cs := by
  obtain ⟨h32, rfl⟩ := genOptimalTable_ok h
  obtain ⟨hl, hK, _⟩ := genCs_spec freq0 htot
  have hb := genBits_ok _ h32 hK hl (nzReal_length freq0)
  exact ⟨by simp [genBits], hb, codes_accepts _ hb.lt⟩

end LJT.Huff
