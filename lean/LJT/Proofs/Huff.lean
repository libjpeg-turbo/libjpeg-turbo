import LJT.Model.Huff
/-! Canonical codes (`genCodes`, Figure C.2 as coded) and the correctness of bit-sequential decoding (`decodeLv`,
Figure F.16 as coded) against the encoder table.  On the code lengths of Figure C.1 the generator runs level by
level (`genCodes_sizesFrom`): the codes of one length are consecutive, then comes the code-space check and the
code doubles; the decoder's correctness is an induction on the levels from that equation.  At the end, what the
decoder does with arbitrary bits (`decode_reads`). -/
namespace LJT.Huff

theorem sizesFrom_bounds (bits : List Nat) : ∀ n l x, x ∈ sizesFrom bits l n → l ≤ x ∧ x < l + n := by
  intro n
  induction n with
  | zero => intro l x h; simp [sizesFrom] at h
  | succ n ih =>
    intro l x h
    simp only [sizesFrom, List.mem_append, List.mem_replicate] at h
    rcases h with ⟨_, rfl⟩ | h
    · omega
    · have := ih (l + 1) x h; omega

theorem sizes_le16 (bits : List Nat) : ∀ x ∈ sizes bits, 1 ≤ x ∧ x ≤ 16 := by
  intro x hx
  have := sizesFrom_bounds bits 16 1 x hx
  omega

theorem sizesFrom_sorted (bits : List Nat) : ∀ n l, (sizesFrom bits l n).Pairwise (· ≤ ·) := by
  intro n
  induction n with
  | zero => intro l; simp [sizesFrom]
  | succ n ih =>
    intro l
    simp only [sizesFrom]
    rw [List.pairwise_append]
    refine ⟨?_, ih (l + 1), ?_⟩
    · exact List.pairwise_replicate.2 (Or.inr (Nat.le_refl _))
    · intro a ha b hb
      have := (List.mem_replicate.1 ha).2
      have := (sizesFrom_bounds bits n (l + 1) b hb).1
      omega

theorem genCodes_nil (code si : Nat) : genCodes [] code si = if code ≥ 2 ^ si then none else some [] := by
  rw [genCodes]

/-- leaving a level on which no code is left: the code-space check, then the code doubles -/
theorem genCodes_level_up (L : List Nat) (code l : Nat) (h : ∀ s ∈ L, l < s) :
    genCodes L code l = if code ≥ 2 ^ l then none else genCodes L (code * 2) (l + 1) := by
  cases L with
  | nil =>
    rw [genCodes_nil, genCodes_nil]
    by_cases hc : code ≥ 2 ^ l
    · rw [if_pos hc, if_pos hc]
    · rw [if_neg hc, if_neg hc, if_neg (by rw [Nat.pow_succ]; omega)]
  | cons s rest =>
    have := h s (List.mem_cons_self ..)
    rw [genCodes, if_neg (by omega), if_neg (by omega)]

theorem genCodes_replicate (tl : List Nat) (l : Nat) : ∀ (b code : Nat),
    genCodes (List.replicate b l ++ tl) code l = (genCodes tl (code + b) l).map (List.range' code b ++ ·) := by
  intro b
  induction b with
  | zero => intro code; simp
  | succ b ih =>
    intro code
    rw [List.replicate_succ, List.cons_append, genCodes, if_pos rfl, ih, List.range'_succ, Option.map_map]
    rw [show code + 1 + b = code + (b + 1) by omega]
    rfl

theorem genCodes_sizesFrom (bits : List Nat) (n l code : Nat) :
    genCodes (sizesFrom bits l (n + 1)) code l =
      if code + bits.getD l 0 ≥ 2 ^ l then none
      else (genCodes (sizesFrom bits (l + 1) n) ((code + bits.getD l 0) * 2) (l + 1)).map
        (List.range' code (bits.getD l 0) ++ ·) := by
  rw [sizesFrom, genCodes_replicate,
    genCodes_level_up _ _ l (fun s hs => (sizesFrom_bounds bits n (l + 1) s hs).1)]
  split <;> rfl

/-- `codes` starts Figure C.2 at the first length in use; starting at length 1 is the same -/
theorem codes_eq (bits : List Nat) : codes bits = genCodes (sizes bits) 0 1 := by
  have aux : ∀ n l, (match sizesFrom bits l n with
      | [] => some []
      | s :: rest => genCodes (s :: rest) 0 s) = genCodes (sizesFrom bits l n) 0 l := by
    intro n
    induction n with
    | zero => intro l; rw [sizesFrom, genCodes_nil, if_neg (Nat.not_le.2 (Nat.two_pow_pos l))]
    | succ n ih =>
      intro l
      rw [sizesFrom]
      cases bits.getD l 0 with
      | zero =>
        rw [List.replicate_zero, List.nil_append, ih (l + 1),
          genCodes_level_up _ 0 l (fun s hs => (sizesFrom_bounds bits n (l + 1) s hs).1),
          if_neg (Nat.not_le.2 (Nat.two_pow_pos l))]
      | succ b => rfl
  exact aux 16 1

/-- what a successful run returns, whatever the list of lengths: a code for every length, none of them all ones -/
theorem genCodes_spec (L : List Nat) (code si : Nat) : ∀ cs, genCodes L code si = some cs →
    code < 2 ^ si ∧ cs.length = L.length ∧ ∀ q (hq : q < L.length), cs.getD q 0 + 1 < 2 ^ L[q] := by
  fun_induction genCodes L code si with
  -- the list is used up
  | case2 code si hc =>
    intro cs h
    cases h
    exact ⟨Nat.lt_of_not_ge hc, rfl, nofun⟩
  -- one more code of the current length
  | case3 rest code si ih =>
    intro cs h
    obtain ⟨cs', h', rfl⟩ := Option.map_eq_some_iff.1 h
    obtain ⟨i1, i2, i3⟩ := ih cs' h'
    refine ⟨Nat.lt_of_succ_lt i1, congrArg (· + 1) i2, fun q hq => ?_⟩
    cases q with
    | zero => exact i1
    | succ q => exact i3 q (Nat.lt_of_succ_lt_succ hq)
  -- the next length
  | case6 s rest code si _ _ hc ih => exact fun cs h => ⟨Nat.lt_of_not_ge hc, (ih cs h).2⟩
  -- the branches that fail
  | case1 | case4 | case5 => nofun

theorem codes_spec {bits cs : List Nat} (h : codes bits = some cs) :
    cs.length = (sizes bits).length ∧ ∀ q (hq : q < (sizes bits).length), cs.getD q 0 + 1 < 2 ^ (sizes bits)[q] := by
  rw [codes_eq] at h
  exact (genCodes_spec _ 0 1 cs h).2

theorem codeBits_zero (c : Nat) : codeBits c 0 = [] := rfl

theorem codeBits_succ (c k : Nat) :
    codeBits c (k + 1) = decide ((c >>> k) % 2 = 1) :: codeBits c k := by
  unfold codeBits
  rw [List.range_succ_eq_map, List.map_cons, List.map_map]
  congr 1
  apply List.map_congr_left
  intro i _
  simp only [Function.comp]
  rw [Nat.add_sub_cancel, Nat.sub_right_comm]
  rfl

theorem codeBits_length (c k : Nat) : (codeBits c k).length = k := by
  unfold codeBits; simp

theorem shift_step_dec (c k : Nat) :
    (c >>> (k + 1)) * 2 + (if decide ((c >>> k) % 2 = 1) = true then 1 else 0) = c >>> k := by
  rw [Nat.shiftRight_succ]
  simp only [decide_eq_true_eq]
  -- the bit appended is the remainder
  have hm : (if (c >>> k) % 2 = 1 then 1 else 0) = (c >>> k) % 2 := by
    rcases Nat.mod_two_eq_zero_or_one (c >>> k) with h | h <;> rw [h] <;> rfl
  rw [hm, Nat.div_add_mod']

theorem cast_step (a : Nat) (b : Bool) :
    (a : Int) * 2 + (if b then 1 else 0) = ((a * 2 + (if b then 1 else 0) : Nat) : Int) := by
  cases b <;> simp

theorem getD_block {cs cs' : List Nat} {p code b : Nat} (h : cs.drop p = List.range' code b ++ cs') {j : Nat}
    (hj : j < b) : cs.getD (p + j) 0 = code + j := by
  rw [List.getD_eq_getElem?_getD, ← List.getElem?_drop, h, List.getElem?_append_left (by simpa using hj),
    List.getElem?_range' hj, Nat.one_mul]
  rfl

/-- `maxcode[l]` and `valoffset[l]` of Figure F.15 for a level of `b` consecutive codes from `code` on, the first
of them at position `p` -/
def lvEntry (code p b : Nat) : Int × Int :=
  if b ≠ 0 then ((code + (b - 1) : Nat), (p : Int) - (code : Int)) else (-1, 0)

theorem f15_succ {bits cs cs' : List Nat} {code p : Nat} (n l : Nat)
    (h : cs.drop p = List.range' code (bits.getD l 0) ++ cs') :
    f15 bits cs (n + 1) l p = lvEntry code p (bits.getD l 0) :: f15 bits cs n (l + 1) (p + bits.getD l 0) := by
  rw [f15, lvEntry]
  by_cases hb : bits.getD l 0 = 0
  · rw [if_neg (not_not_intro hb), if_neg (not_not_intro hb), hb]
    rfl
  · have hpos := Nat.pos_of_ne_zero hb
    have hfirst : cs.getD p 0 = code := getD_block h (j := 0) hpos
    rw [if_pos hb, if_pos hb, Nat.add_sub_assoc hpos, getD_block h (Nat.sub_lt hpos Nat.one_pos), hfirst]

theorem decodeLv_hit {vals : List Nat} {lv : List (Int × Int)} {code p b l q : Nat} {bs : List Bool}
    (hq : q < b) (hl : l ≤ 16) :
    decodeLv vals (lvEntry code p b :: lv) l ((code + q : Nat) : Int) bs = some (vals.getD (p + q) 0, false, bs) := by
  rw [lvEntry, if_pos (Nat.ne_of_gt (Nat.zero_lt_of_lt hq))]
  simp only [decodeLv]
  rw [if_pos (Int.ofNat_le.2 (by omega)), if_neg (Nat.not_lt.2 hl)]
  congr 3
  omega

theorem decodeLv_miss {vals : List Nat} {lv : List (Int × Int)} {code p b l v k : Nat} {rest : List Bool}
    (h : code + b ≤ v >>> (k + 1)) :
    decodeLv vals (lvEntry code p b :: lv) l ((v >>> (k + 1) : Nat) : Int) (codeBits v (k + 1) ++ rest) =
      decodeLv vals lv (l + 1) ((v >>> k : Nat) : Int) (codeBits v k ++ rest) := by
  have hmc : ¬ ((v >>> (k + 1) : Nat) : Int) ≤ (lvEntry code p b).1 := by
    rw [lvEntry]
    split <;> omega
  rw [codeBits_succ, List.cons_append]
  simp only [decodeLv]
  rw [if_neg hmc, cast_step, shift_step_dec]

/-- **Bit-sequential decoding finds every code**: level by level along Figure C.2.  `cs` is the whole list of
codes, its part from position `p` on the codes of the lengths `l ..`; the code at position `p + q` has some `k` bits
more than the `l` already read.  What carries the induction: cut to those `l` bits the code is not below `code`, so
on a shorter level it lies above every code of that level. -/
theorem decodeLv_correct (bits vals cs : List Nat) (tail : List (Int × Int)) (rest : List Bool) : ∀ (n l code p : Nat),
    genCodes (sizesFrom bits l n) code l = some (cs.drop p) → l + n = 17 →
      ∀ q z, (sizesFrom bits l n)[q]? = some z → ∃ k, z = l + k ∧ code ≤ cs.getD (p + q) 0 >>> k ∧
        decodeLv vals (f15 bits cs n l p ++ tail) l ((cs.getD (p + q) 0 >>> k : Nat) : Int)
            (codeBits (cs.getD (p + q) 0) k ++ rest)
          = some (vals.getD (p + q) 0, false, rest) := by
  intro n
  induction n with
  | zero => intro l code p _ _ q z hz; simp [sizesFrom] at hz
  | succ n ih =>
    intro l code p h hl q z hz
    have hl16 : l ≤ 16 := by omega
    have hl' : l + 1 + n = 17 := by omega
    rw [genCodes_sizesFrom] at h
    obtain ⟨cs', h', e⟩ := Option.map_eq_some_iff.1 (Option.ite_none_left_eq_some.1 h).2
    have hcs' : cs' = cs.drop (p + bits.getD l 0) := by
      rw [← List.drop_drop, ← e, List.drop_left' List.length_range']
    rw [sizesFrom, List.getElem?_append, List.length_replicate] at hz
    rw [f15_succ n l e.symm]
    by_cases hb : q < bits.getD l 0
    · rw [if_pos hb, List.getElem?_replicate, if_pos hb] at hz
      cases hz
      rw [getD_block e.symm hb]
      exact ⟨0, rfl, Nat.le_add_right _ _, decodeLv_hit hb hl16⟩
    · obtain ⟨q', rfl⟩ := Nat.exists_eq_add_of_le (Nat.le_of_not_lt hb)
      rw [if_neg hb, Nat.add_sub_cancel_left] at hz
      obtain ⟨k, rfl, lo, dec⟩ := ih (l + 1) _ (p + bits.getD l 0) (hcs' ▸ h') hl' q' z hz
      have habove : code + bits.getD l 0 ≤ cs.getD (p + bits.getD l 0 + q') 0 >>> (k + 1) := by
        rw [Nat.shiftRight_succ]
        exact (Nat.le_div_iff_mul_le Nat.two_pos).2 lo
      rw [← Nat.add_assoc]
      refine ⟨k + 1, Nat.add_right_comm l 1 k, Nat.le_trans (Nat.le_add_right _ _) habove, ?_⟩
      rw [List.cons_append, decodeLv_miss habove]
      exact dec

theorem getD_set {a : Array Nat} {i j x : Nat} (hi : i < a.size) :
    (a.setIfInBounds i x).getD j 0 = if i = j then x else a.getD j 0 := by
  simp only [Array.getD_eq_getD_getElem?, Array.getElem?_setIfInBounds]
  by_cases h : i = j
  · subst h; simp [hi]
  · simp [h]

theorem toList_getD (a : Array Nat) (j : Nat) : a.toList.getD j 0 = a.getD j 0 := by
  simp [Array.getD_eq_getD_getElem?, List.getD_eq_getElem?_getD]

theorem getD_replicate_zero (n j : Nat) : (Array.replicate n 0).getD j 0 = 0 := by
  rw [Array.getD_eq_getD_getElem?, Array.getElem?_replicate]
  split <;> rfl

theorem maxsym_lt (isDC lossless : Bool) : (if isDC then (if lossless then 16 else 15) else 255) < 256 := by
  cases isDC <;> cases lossless <;> decide

/-- Figure C.3 + validation, symbol by symbol: a symbol that is listed has got the code and size of a position
where it is listed, any other symbol keeps what it had.  (The cases of `fillC`: no size left; no code left; no symbol
left; a check fails; both pass.) -/
theorem fillC_spec (sz cs vals : List Nat) (m : Nat) (co si : Array Nat) : ∀ (d : CDerived),
    fillC sz cs vals m co si = some d → m < 256 → co.size = 256 → si.size = 256 →
    (∀ s, (∃ q, ∃ h : q < sz.length, vals.getD q 0 = s ∧ d.co.getD s 0 = cs.getD q 0 ∧ d.si.getD s 0 = sz[q]) ∨
      (s ∉ vals.take sz.length ∧ d.co.getD s 0 = co.getD s 0 ∧ d.si.getD s 0 = si.getD s 0)) ∧
    (∀ v ∈ vals.take sz.length, v ≤ m) := by
  fun_induction fillC sz cs vals m co si with
  | case1 _ _ _ co si | case3 _ _ _ _ _ co si =>
    intro d h _ _ _
    cases h
    exact ⟨fun s => .inr ⟨List.not_mem_nil, toList_getD co s, toList_getD si s⟩, nofun⟩
  | case5 s0 sz c0 cs v0 vals m co si hchk ih =>
    intro d h hm hco hsi
    have hv0 : v0 ≤ m := Nat.le_of_not_lt fun h => hchk (by simp [h])
    have hv256 : v0 < 256 := Nat.lt_of_le_of_lt hv0 hm
    obtain ⟨I1, I2⟩ := ih d h hm (by simpa using hco) (by simpa using hsi)
    simp only [getD_set (hco ▸ hv256 : v0 < co.size), getD_set (hsi ▸ hv256 : v0 < si.size)] at I1
    refine ⟨fun s => ?_, fun v hv => (List.mem_cons.1 hv).elim (fun e => e ▸ hv0) (I2 v)⟩
    rcases I1 s with ⟨q, hq, e⟩ | ⟨hno, e⟩
    · exact .inl ⟨q + 1, Nat.succ_lt_succ hq, e⟩
    · by_cases hs : v0 = s
      -- what is written now stays: `s` is not listed again
      · rw [if_pos hs, if_pos hs] at e
        exact .inl ⟨0, Nat.zero_lt_succ _, hs, e⟩
      · rw [if_neg hs, if_neg hs] at e
        exact .inr ⟨fun h => (List.mem_cons.1 h).elim (Ne.symm hs) hno, e⟩
  | case2 | case4 => exact fun _ h => nomatch h

/-- **What a successful `jpeg_make_c_derived_tbl` stores.**  The table passed the code-space check with codes
`cs`; a listed symbol has got the code and size of a position `q` where it is listed, no other symbol has a size, and
no listed symbol is above the largest the table kind allows. -/
theorem mkCDerived_some {isDC lossless : Bool} {t : Tbl} {c : CDerived} (hc : mkCDerived isDC lossless t = some c) :
    ∃ cs, codes t.bits = some cs ∧ (sizes t.bits).length ≤ 256 ∧
      (∀ s, (∃ q, ∃ h : q < (sizes t.bits).length,
          (t.vals ++ List.replicate (256 - t.vals.length) 0).getD q 0 = s ∧
          c.co.getD s 0 = cs.getD q 0 ∧ c.si.getD s 0 = (sizes t.bits)[q]) ∨
        (s ∉ (t.vals ++ List.replicate (256 - t.vals.length) 0).take (sizes t.bits).length ∧ c.si.getD s 0 = 0)) ∧
      (∀ v ∈ (t.vals ++ List.replicate (256 - t.vals.length) 0).take (sizes t.bits).length,
        v ≤ (if isDC then (if lossless then 16 else 15) else 255)) := by
  revert hc
  fun_cases mkCDerived isDC lossless t with
  | case3 sz hlen cs hcodes maxsym =>
    intro hc
    obtain ⟨S, R⟩ := fillC_spec _ _ _ _ _ _ c hc (maxsym_lt isDC lossless) Array.size_replicate Array.size_replicate
    exact ⟨cs, hcodes, Nat.le_of_not_gt hlen,
      fun s => (S s).imp_right fun ⟨hno, _, e⟩ => ⟨hno, e.trans (getD_replicate_zero 256 s)⟩, R⟩
  -- too many codes, or the code-space check fails
  | _ => exact nofun

/-- a table `jpeg_make_c_derived_tbl` accepts `jpeg_make_d_derived_tbl` accepts: same code-space check, and the
symbol range was checked when the compressor's table was built -/
theorem mkDDerived_of_mkCDerived {isDC lossless : Bool} {t : Tbl} {c : CDerived}
    (hc : mkCDerived isDC lossless t = some c) : ∃ d, mkDDerived isDC lossless t = some d := by
  obtain ⟨cs, hcodes, hlen, _, hle⟩ := mkCDerived_some hc
  unfold mkDDerived
  simp only [hcodes]
  rw [if_neg (Nat.not_lt.2 hlen), if_neg]
  · exact ⟨_, rfl⟩
  · intro h
    obtain ⟨hdc, hany⟩ := Bool.and_eq_true_iff.1 h
    obtain ⟨x, hx, hgt⟩ := List.any_eq_true.1 hany
    have := hle x hx
    rw [hdc, if_pos rfl] at this
    exact Nat.not_lt.2 this (of_decide_eq_true hgt)

/-- the first bit is read by `decode` itself: a step from an empty level 0 -/
theorem decode_eq (d : DDerived) (bs : List Bool) : decode d bs = decodeLv d.vals ((-1, 0) :: d.levels) 0 0 bs := by
  cases bs with
  | nil => rfl
  | cons b bs => cases b <;> rfl

theorem decode_codeBits (d : DDerived) (v k : Nat) (rest : List Bool) (hv : v < 2 ^ (k + 1)) :
    decode d (codeBits v (k + 1) ++ rest) = decodeLv d.vals d.levels 1 ((v >>> k : Nat) : Int) (codeBits v k ++ rest) := by
  have h0 : v >>> (k + 1) = 0 := by rw [Nat.shiftRight_eq_div_pow]; exact Nat.div_eq_of_lt hv
  rw [decode_eq, ← decodeLv_miss (code := 0) (p := 0) (b := 0) (l := 0) (Nat.zero_le _), h0]
  rfl

/-- **The decoder-side table finds every code word**: the `q`-th code, followed by arbitrary further bits, decodes to
the symbol listed at position `q` and leaves exactly the further bits. -/
theorem decode_code {isDC lossless : Bool} {t : Tbl} {d : DDerived} {cs : List Nat} (hcodes : codes t.bits = some cs)
    (hd : mkDDerived isDC lossless t = some d) (q : Nat) (hq : q < (sizes t.bits).length) (rest : List Bool) :
    decode d (codeBits (cs.getD q 0) (sizes t.bits)[q] ++ rest) =
      some ((t.vals ++ List.replicate (256 - t.vals.length) 0).getD q 0, false, rest) := by
  unfold mkDDerived at hd
  simp only [hcodes] at hd
  cases (Option.ite_none_left_eq_some.1 (Option.ite_none_left_eq_some.1 hd).2).2
  have hup := (codes_spec hcodes).2 q hq
  rw [codes_eq] at hcodes
  obtain ⟨k, hk, _, dec⟩ := decodeLv_correct t.bits (t.vals ++ List.replicate (256 - t.vals.length) 0) cs
    [((0xFFFFF : Int), (0 : Int))] rest 16 1 0 0 hcodes rfl q _ (List.getElem?_eq_getElem hq)
  rw [show (sizes t.bits)[q] = k + 1 from hk.trans (Nat.add_comm 1 k)] at hup ⊢
  rw [decode_codeBits _ _ k rest (Nat.lt_of_succ_lt hup)]
  simp only [DDerived.levels, List.cons_append, List.zip_cons_cons, List.drop_succ_cons, List.drop_zero,
    List.zip_append, List.length_map, List.zip_map', Prod.eta, List.map_id']
  rwa [Nat.zero_add] at dec

/-- **Encoder and decoder derived tables are mutual inverses (encode then decode).**
For any table accepted by both builders, the bits the encoder emits for a coded symbol
`s`, followed by arbitrary further bits, decode to exactly `s` and leave exactly the
further bits. -/
theorem decode_encode (isDC lossless : Bool) (t : Tbl) (c : CDerived) (d : DDerived)
    (hc : mkCDerived isDC lossless t = some c) (hd : mkDDerived isDC lossless t = some d)
    (s : Nat) (bs : List Bool) (he : encode c s = some bs) (rest : List Bool) :
    decode d (bs ++ rest) = some (s, false, rest) := by
  obtain ⟨cs, hcodes, _, S, _⟩ := mkCDerived_some hc
  unfold encode at he
  obtain ⟨hsi, he⟩ := Option.ite_none_left_eq_some.1 he
  cases he
  -- a symbol with a size is listed, at position `q` say, and its code and size are the `q`-th
  rcases S s with ⟨q, hq, rfl, eco, esi⟩ | ⟨_, h0⟩
  · rw [eco, esi]
    exact decode_code hcodes hd q hq rest
  · exact absurd h0 hsi

theorem decodeLv_reads (vals : List Nat) (lv : List (Int × Int)) (l : Nat) (code : Int) (bs : List Bool) : ∀ (s : Nat)
    (f : Bool) (rest : List Bool), decodeLv vals lv l code bs = some (s, f, rest) →
    (∀ e, decodeLv vals lv l code (bs ++ e) = some (s, f, rest ++ e)) ∧
      (f = false → l + bs.length ≤ rest.length + 16 ∧ (s = 0 ∨ s ∈ vals)) := by
  fun_induction decodeLv vals lv l code bs with
  -- a code longer than 16 bits
  | case2 mc vo lv l code bs hc hl =>
    intro s f rest h
    cases h
    exact ⟨fun e => by unfold decodeLv; rw [if_pos hc, if_pos hl], nofun⟩
  -- a code of `l` bits
  | case3 mc vo lv l code bs hc hl =>
    intro s f rest h
    cases h
    refine ⟨fun e => by unfold decodeLv; rw [if_pos hc, if_neg hl], fun _ => ⟨?_, ?_⟩⟩
    · rw [Nat.add_comm]
      exact Nat.add_le_add_left (Nat.le_of_not_lt hl) _
    · rw [List.getD_eq_getElem?_getD]
      cases hv : vals[(code + vo).toNat]? with
      | none => exact .inl rfl
      | some v => exact .inr (List.mem_of_getElem? hv)
  -- one more bit
  | case5 mc vo lv l code hc b bs ih =>
    intro s f rest h
    obtain ⟨i1, i2⟩ := ih s f rest h
    refine ⟨fun e => by rw [List.cons_append, decodeLv, if_neg hc]; exact i1 e, fun hf => ⟨?_, (i2 hf).2⟩⟩
    rw [List.length_cons, Nat.add_comm bs.length 1, ← Nat.add_assoc]
    exact (i2 hf).1
  -- the table or the bits are exhausted
  | _ => exact fun _ _ _ h => nomatch h

theorem decode_reads (d : DDerived) (bs : List Bool) (s : Nat) (f : Bool) (rest : List Bool)
    (h : decode d bs = some (s, f, rest)) :
    (∀ e, decode d (bs ++ e) = some (s, f, rest ++ e)) ∧
      (f = false → bs.length ≤ rest.length + 16 ∧ (s = 0 ∨ s ∈ d.vals)) := by
  simp only [decode_eq] at h ⊢
  simpa only [Nat.zero_add] using decodeLv_reads _ _ 0 0 bs s f rest h

end LJT.Huff
