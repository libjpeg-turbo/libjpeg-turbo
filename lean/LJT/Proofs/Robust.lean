import LJT.Proofs.SeqHuff
import LJT.Gen.Src
/-! Size bounds for C13 and C17: a code word has at most 16 bits, a coefficient position at most 31, an encoded block
fits the staging buffer of `encode_one_block`.  The first two are read off the decoder: what the encoder writes the
decoder reads back (the round trips), and it never reads more than that (`decode_reads`, `decodeAC_reads`). -/
namespace LJT.SeqHuff
open LJT.Huff LJT.LL

/-- every code of a table accepted by `jpeg_make_c_derived_tbl` has at most 16 bits: the decoder reads it back, and it
never reads more for one symbol -/
theorem encode_length_le (isDC lossless : Bool) (t : Tbl) (c : CDerived) (hc : mkCDerived isDC lossless t = some c)
    (s : Nat) (bs : List Bool) (he : encode c s = some bs) : bs.length ≤ 16 := by
  obtain ⟨d, hd⟩ := mkDDerived_of_mkCDerived hc
  simpa using ((decode_reads d _ _ _ _ (decode_encode isDC lossless t c d hc hd s bs he [])).2 rfl).1

theorem encodeAC_length {t : Tbl} {c : CDerived} (hc : mkCDerived false false t = some c) (ac : List Int) (r : Nat)
    (bits : List Bool) (hv : ∀ v ∈ ac, v.natAbs < 32768) (he : encodeAC c r ac = some bits) :
    bits.length ≤ 31 * (r + ac.length) := by
  obtain ⟨dd, hd⟩ := mkDDerived_of_mkCDerived hc
  have h := decodeAC_encodeAC t c dd hc hd ac r _ bits [] hv he (Nat.lt_succ_self _)
  simpa using (decodeAC_reads dd _ _ _ _ _ h).2.2

/-- **an encoded block, together with up to 63 bits pending in the bit buffer, never needs
more than the local output buffer of `encode_one_block`, even if every byte is stuffed** -/
theorem block_fits_buffer (tdc tac : Tbl) (cdc cac : CDerived)
    (h1 : mkCDerived true false tdc = some cdc) (h3 : mkCDerived false false tac = some cac)
    (diff : Int) (ac : List Int) (hlen : ac.length = 63) (hd : diff.natAbs < 32768)
    (hac : ∀ v ∈ ac, v.natAbs < 32768) (bits : List Bool) (he : encodeBlock cdc cac diff ac = some bits)
    (pending : Nat) (hp : pending ≤ 63) :
    2 * ((pending + bits.length) / 8) ≤ Gen.Src.jchuff_BUFSIZE := by
  obtain ⟨db, ab, hi, ha, rfl⟩ := encodeBlock_some he
  have la := encodeAC_length h3 ac 0 ab hac ha
  rw [hlen] at la
  obtain ⟨code, hcode, rfl⟩ := itemBits_some hi
  have := encode_length_le true false tdc cdc h1 _ _ hcode
  have ld : (category diff).2.2 < 16 := by
    by_cases h0 : diff = 0
    · subst h0; decide
    · obtain ⟨_, h16, hnex, _, _⟩ := category_exact diff h0 hd
      exact hnex ▸ h16
  -- 16 + 15 bits for DC, 31 * 63 for AC, 63 pending: 2047 bits = 255 bytes, 510 when every byte is stuffed, against 512
  simp [Gen.Src.jchuff_BUFSIZE, length_natBits]
  omega

end LJT.SeqHuff
