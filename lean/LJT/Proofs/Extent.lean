import LJT.Model.Extent
/-! Row addressing of packed-pixel buffers (C11): image row `y` lives in buffer row `bufRow y`,
which is `y` itself or its mirror image, and an offset belongs to it iff its quotient by the
pitch is that row and its remainder lies below the row size. -/
namespace LJT.Extent

/-- the buffer row, counted from the start of the buffer, that holds image row `y` -/
def bufRow (h : Nat) (bottomUp : Bool) (y : Nat) : Nat := if bottomUp then h - 1 - y else y

theorem rowStart_eq (pitch h : Nat) (bottomUp : Bool) (y : Nat) :
    rowStart pitch h bottomUp y = bufRow h bottomUp y * pitch := by
  unfold rowStart bufRow; split <;> rfl

theorem bufRow_lt {h : Nat} (bottomUp : Bool) {y : Nat} (hy : y < h) : bufRow h bottomUp y < h := by
  unfold bufRow; split <;> omega

theorem bufRow_bufRow {h : Nat} (bottomUp : Bool) {y : Nat} (hy : y < h) :
    bufRow h bottomUp (bufRow h bottomUp y) = y := by
  unfold bufRow; split <;> omega

theorem inRow_iff (rowBytes pitch h : Nat) (bottomUp : Bool) (hp : rowBytes ≤ pitch) (y o : Nat) :
    inRow rowBytes pitch h bottomUp y o ↔ o / pitch = bufRow h bottomUp y ∧ o % pitch < rowBytes := by
  unfold inRow
  rw [rowStart_eq]
  generalize bufRow h bottomUp y = r
  constructor
  · intro ⟨hlo, hhi⟩
    obtain ⟨k, rfl⟩ := Nat.exists_eq_add_of_le hlo
    have hk : k < rowBytes := Nat.lt_of_add_lt_add_left hhi
    have hkp : k < pitch := Nat.lt_of_lt_of_le hk hp
    rw [Nat.mul_comm, Nat.mul_add_div (Nat.zero_lt_of_lt hkp), Nat.mul_add_mod, Nat.div_eq_of_lt hkp, Nat.mod_eq_of_lt hkp]
    exact ⟨rfl, hk⟩
  · intro ⟨hq, hm⟩
    have hdm := Nat.div_add_mod o pitch
    rw [Nat.mul_comm, hq] at hdm
    omega

end LJT.Extent
