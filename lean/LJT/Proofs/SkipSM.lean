import LJT.Proofs.RowMachine
/-!
The simple machine of Model/SkipSM.lean: its states between calls as functions of the output position, one equation per
branch of the step functions on those states, and for each operation a statement that goes from the invariant at a
position to the invariant after the operation.
-/
namespace LJT.Skip

variable (c : Cfg)

/-- iMCU row `a` in the main buffer, row group `(a, g)` in the conversion buffer, `r` rows of it delivered -/
def rowAt (y a g r : Nat) : St := ⟨y, a + 1, true, g, r, c.H - y, a, a, g⟩

/-- before row group `(a, g)` with iMCU row `a` in the main buffer; what the conversion buffer holds (as in `t`) is of no
interest any more -/
def groupAt (y a g : Nat) (t : St) : St :=
  { t with y := y, irow := a + 1, bf := true, rg := g, nro := c.v, rtg := c.H - y, bufRow := a }

/-- before iMCU row `a` with nothing of it decoded -/
def imcuAt (y a : Nat) (t : St) : St :=
  { t with y := y, irow := a, bf := false, rg := 0, nro := c.v, rtg := c.H - y }

/-- the state between API calls at position `(a, g, r)`: a full main buffer has had at least one row delivered from it -/
inductive InvAt : St → Nat → Nat → Nat → Prop
  | row (y a g r : Nat) : 0 < r → InvAt (rowAt c y a g r) a g r
  | group (y a g : Nat) (t : St) : g ≠ 0 → InvAt (groupAt c y a g t) a g 0
  | imcu (y a : Nat) (t : St) : InvAt (imcuAt c y a t) a 0 0

def Inv (s : St) : Prop :=
  s.y ≤ c.H ∧ (s.y < c.H → ∃ a g r, PosAt c s.y a g r ∧ InvAt c s a g r)

theorem Inv.at {c : Cfg} {s : St} {a g r : Nat} (h : Inv c s) (hy : s.y < c.H) (hp : PosAt c s.y a g r) : InvAt c s a g r := by
  obtain ⟨a', g', r', hp', hat⟩ := h.2 hy
  obtain ⟨rfl, rfl, rfl⟩ := hp.unique hp'
  exact hat

theorem Inv.set_rtg {c : Cfg} {s : St} (h : Inv c s) (hy : s.y < c.H) : { s with rtg := c.H - s.y } = s := by
  obtain ⟨a, g, r, _, hat⟩ := h.2 hy
  cases hat <;> rfl

theorem init_inv (hM : 0 < c.M) (hv : 0 < c.v) : Inv c (init c) :=
  ⟨Nat.zero_le _, fun _ => ⟨0, 0, 0, ⟨hM, hv, (lineOf_zero c).symm⟩, .imcu 0 0 (init c)⟩⟩

theorem prep_group (y a g : Nat) (t : St) : prep c (groupAt c y a g t) = rowAt c y a g 0 := by
  simp [prep, fillBuf, groupAt, rowAt]

theorem InvAt.prep {c : Cfg} {s : St} {a g r : Nat} (h : InvAt c s a g r) (hr : r < c.v) : prep c s = rowAt c s.y a g r := by
  cases h with
  | row y a g r => simp [Skip.prep, fillBuf, rowAt, Nat.not_le.mpr hr]
  | group y a g t => exact prep_group c y a g t
  | imcu y a t => simp [Skip.prep, fillBuf, imcuAt, rowAt]

section
variable {y a g r n k : Nat} (hk : min (min (c.v - r) (c.H - y)) n = k)
include hk

theorem deliver_row (h : r + k < c.v) (hg : g < c.M) :
    deliver c (rowAt c y a g r) n = (rowAt c (y + k) a g (r + k), groupRows a g r k) := by
  simp [deliver, rowAt, groupRows, hk, Nat.not_le.mpr h, Nat.not_le.mpr hg, Nat.sub_sub]

theorem deliver_group (h : r + k = c.v) (hg : g + 1 < c.M) :
    deliver c (rowAt c y a g r) n = (groupAt c (y + k) a (g + 1) (rowAt c y a g r), groupRows a g r k) := by
  simp [deliver, rowAt, groupAt, groupRows, hk, h, Nat.not_le.mpr hg, Nat.sub_sub]

theorem deliver_imcu (h : r + k = c.v) (hg : c.M ≤ g + 1) :
    deliver c (rowAt c y a g r) n = (imcuAt c (y + k) (a + 1) (rowAt c y a g r), groupRows a g r k) := by
  simp [deliver, rowAt, imcuAt, groupRows, hk, h, hg, Nat.sub_sub]

end

/-- a read from any state that `prep` brings to `rowAt`: those between calls, and the one inside `jump` -/
theorem read_spec (s : St) (n : Nat) {a g r : Nat} (hp : PosAt c s.y a g r) (hs : prep c s = rowAt c s.y a g r) (hH : s.y < c.H)
    (hn : 1 ≤ n) :
    Inv c (read c s n).1 ∧ ReadOK c s.y n (read c s n).2 (read c s n).1.y := by
  generalize hk : min (min (c.v - r) (c.H - s.y)) n = k
  obtain ⟨k1, k2, k4, hle, _⟩ := take_lag (d := 0) hk hp.2.1 rfl hH hn (Or.inl rfl)
  have hok := ReadOK.range hp k1 k4 k2 hle
  rw [read, if_neg (Nat.not_le.mpr hH), if_neg (Nat.ne_of_gt hn), hs]
  rcases Nat.lt_or_eq_of_le k4 with hlt | hfull
  · rw [deliver_row c hk hlt hp.1]
    exact ⟨⟨hle, fun _ => ⟨a, g, r + k, hp.add_r hlt, .row _ _ _ _ (Nat.add_pos_right r k1)⟩⟩, hok⟩
  · by_cases hlast : g + 1 < c.M
    · rw [deliver_group c hk hfull hlast]
      exact ⟨⟨hle, fun _ => ⟨a, g + 1, 0, hp.next_group hfull hlast, .group _ _ _ _ (Nat.succ_ne_zero g)⟩⟩, hok⟩
    · rw [deliver_imcu c hk hfull (Nat.not_lt.mp hlast)]
      exact ⟨⟨hle, fun _ => ⟨a + 1, 0, 0, hp.next_imcu hfull (Nat.le_antisymm hp.1 (Nat.not_lt.mp hlast)), .imcu _ _ _⟩⟩,
        hok⟩

theorem read_ok (s : St) (n : Nat) (h : Inv c s) :
    Inv c (read c s n).1 ∧ ReadOK c s.y n (read c s n).2 (read c s n).1.y := by
  refine ReadOK.frame c St.y (Inv c) h h.1 _ rfl (fun h1 h2 => ?_)
  have hy := Nat.lt_of_not_le h1
  obtain ⟨a, g, r, hp, hat⟩ := h.2 hy
  exact read_spec c s n hp (hat.prep hp.2.1) hy (Nat.pos_of_ne_zero h2)

theorem read_length (s : St) (n : Nat) : (read c s n).2.length ≤ c.v := by
  fun_cases read c s n with
  | case1 | case2 => exact Nat.zero_le _  -- past the bottom; nothing wanted
  | case3 =>
    rw [deliver, List.length_map, List.length_range]
    exact Nat.le_trans (Nat.min_le_left _ _) (Nat.le_trans (Nat.min_le_left _ _) (Nat.sub_le _ _))

theorem runs : Runs St.y (read c) (skip c) (step c) (run c) (readDiscard c) :=
  ⟨fun _ _ => rfl, fun _ _ => rfl, fun _ => rfl, fun _ _ _ => rfl, fun _ => rfl, fun _ _ => rfl⟩

theorem readDiscard_spec (k : Nat) (s : St) (h : Inv c s) (hH : s.y + k ≤ c.H) :
    Inv c (readDiscard c k s) ∧ (readDiscard c k s).y = s.y + k := by
  rw [(runs c).discard_run]
  exact ((runs c).one_by_one c (Inv c) (fun s h _ => read_ok c s 1 h) k s h hH).2

theorem jump_group (y a g rows : Nat) (t : St) :
    jump c (groupAt c y a g t) rows =
      readDiscard c (rows % c.v) (groupAt c (y + (rows - rows % c.v)) a (g + rows / c.v) t) := by
  simp [jump, groupAt]

theorem jump_arith {y x l H : Nat} (hH : y + (x + (l + 1)) < H) :
    y + x < H ∧ y + x + 1 + l ≤ H ∧ y + x + 1 + l = y + (x + (l + 1)) := by
  omega

theorem jump_spec {a g rows : Nat} (y : Nat) (t : St) (hp : PosAt c y a g 0)
    (hin : g * c.v + rows < c.M * c.v) (hH : y + rows < c.H) (hst : 0 < rows ∨ g ≠ 0) :
    Inv c (jump c (groupAt c y a g t) rows) ∧ (jump c (groupAt c y a g t) rows).y = y + rows := by
  have hdm := Nat.div_add_mod rows c.v
  have hl := Nat.mod_lt rows hp.2.1
  rw [Nat.mul_comm] at hdm
  rw [jump_group, Nat.sub_eq_of_eq_add hdm.symm]
  generalize rows / c.v = q at hdm ⊢
  generalize rows % c.v = l at hdm hl ⊢
  subst hdm
  have hgq : g + q < c.M := by
    apply Nat.lt_of_mul_lt_mul_right (a := c.v)
    rw [Nat.add_mul]
    exact Nat.lt_of_le_of_lt (Nat.add_le_add_left (Nat.le_add_right _ _) _) hin
  have hp' := hp.add_g hgq
  cases l with
  | zero =>
    refine ⟨⟨Nat.le_of_lt hH, fun _ => ⟨a, g + q, 0, hp', .group _ _ _ _ (fun h0 => ?_)⟩⟩, rfl⟩
    obtain ⟨hg0, hq0⟩ := Nat.add_eq_zero_iff.mp h0
    rw [hq0, Nat.zero_mul] at hst
    exact hst.elim (Nat.lt_irrefl 0) (fun h => h hg0)
  | succ l =>
    -- the first row is read with the buffer full and nothing delivered from it if `g + q = 0`: not a state between calls
    obtain ⟨hy1, f2, f3⟩ := jump_arith hH
    obtain ⟨hinv, hok⟩ := read_spec c (groupAt c (y + q * c.v) a (g + q) t) 1 hp' (prep_group ..) hy1
      (Nat.le_refl 1)
    have hy := hok.one hy1
    obtain ⟨i1, i2⟩ := readDiscard_spec c l _ hinv (by rw [hy]; exact f2)
    refine ⟨i1, ?_⟩
    show (readDiscard c l (read c _ 1).1).y = _
    rw [i2, hy]
    exact f3

theorem jump_zero (s : St) : jump c s 0 = { s with rtg := c.H - s.y } := by
  simp only [jump, Nat.zero_mod, Nat.zero_div, Nat.add_zero, Nat.sub_zero, readDiscard]

/-- `rows` rows from row `r` of a row group, more than the group still holds: the group is finished and the rest goes on from
the next one, inside the iMCU row of `L` rows (`x` rows of it lie before the group) and inside the image -/
theorem row_arith {x r v rows L y H : Nat} (hm : ¬ rows ≤ v - r) (hin : x + r + rows < L) (hH : y + rows < H) :
    x + v < L ∧ x + v + (rows - (v - r)) < L ∧ y + (v - r) < H ∧ y + (v - r) + (rows - (v - r)) < H ∧
      y + (v - r) + (rows - (v - r)) = y + rows := by
  omega

theorem incSimple_spec (s : St) {a g r rows : Nat} (hp : PosAt c s.y a g r) (h : InvAt c s a g r)
    (hin : g * c.v + r + rows < c.M * c.v) (hH : s.y + rows < c.H) :
    Inv c (incSimple c s rows) ∧ (incSimple c s rows).y = s.y + rows := by
  have hinv : Inv c s := ⟨Nat.le_of_lt (Nat.lt_of_le_of_lt (Nat.le_add_right _ _) hH), fun _ => ⟨a, g, r, hp, h⟩⟩
  cases h with
  | row y a g r hr0 =>
    -- what is left of the row group in the conversion buffer is read and discarded
    have e : incSimple c (rowAt c y a g r) rows =
        jump c (readDiscard c (min (c.v - r) rows) (rowAt c y a g r)) (rows - min (c.v - r) rows) := by
      simp [incSimple, fillBuf, rowAt, hp.2.1]
    obtain ⟨i1, i2⟩ := readDiscard_spec c (min (c.v - r) rows) _ hinv
      (Nat.le_trans (Nat.add_le_add_left (Nat.min_le_right _ _) _) (Nat.le_of_lt hH))
    rw [e]
    generalize readDiscard c (min (c.v - r) rows) (rowAt c y a g r) = s1 at i1 i2 ⊢
    by_cases hm : rows ≤ c.v - r
    · rw [Nat.min_eq_right hm] at i2 ⊢
      rw [Nat.sub_self, jump_zero, i1.set_rtg (i2 ▸ hH)]
      exact ⟨i1, i2⟩
    · -- then `jump` from position `(a, g + 1, 0)`
      rw [Nat.min_eq_left (Nat.le_of_not_le hm)] at i2 ⊢
      obtain ⟨f1, f2, f3, f4, f5⟩ := row_arith hm hin hH
      have hg1 : g + 1 < c.M := by
        apply Nat.lt_of_mul_lt_mul_right (a := c.v)
        rw [Nat.succ_mul]; exact f1
      have hp1 : PosAt c s1.y a (g + 1) 0 := by
        rw [i2]; exact hp.next_group (Nat.add_sub_cancel' (Nat.le_of_lt hp.2.1)) hg1
      cases i1.at (i2 ▸ f3) hp1 with
      | row _ _ _ _ h => exact absurd h (Nat.lt_irrefl 0)
      | group y1 _ _ t _ =>
        have ey : y1 = (rowAt c y a g r).y + (c.v - r) := i2
        obtain ⟨j1, j2⟩ := jump_spec c y1 t hp1 (by rw [Nat.succ_mul]; exact f2)
          (ey ▸ f4) (Or.inr (Nat.succ_ne_zero g))
        exact ⟨j1, by rw [j2, ey]; exact f5⟩
  | group y a g t hg =>
    have e : incSimple c (groupAt c y a g t) rows = jump c (groupAt c y a g t) rows := by
      simp [incSimple, fillBuf, groupAt, readDiscard]
    rw [e]
    exact jump_spec c y t hp hin hH (Or.inr hg)
  | imcu y a t =>
    -- the iMCU row is decoded only if there is something to skip
    cases rows with
    | zero =>
      have e : incSimple c (imcuAt c y a t) 0 = imcuAt c y a t := by simp [incSimple, jump, readDiscard, imcuAt]
      rw [e]
      exact ⟨hinv, rfl⟩
    | succ k =>
      have e : incSimple c (imcuAt c y a t) (k + 1) = jump c (groupAt c y a 0 (imcuAt c y a t)) (k + 1) := by
        simp [incSimple, fillBuf, imcuAt, groupAt, readDiscard]
      rw [e]
      exact jump_spec c y _ hp hin hH (Or.inl (Nat.succ_pos k))

/-- between calls `output_iMCU_row` is the iMCU row that starts where the current one ends, or the current one if nothing
of it has been decoded -/
theorem InvAt.boundary {c : Cfg} {s : St} {a g r : Nat} (hp : PosAt c s.y a g r) (h : InvAt c s a g r) :
    lineOf c s.irow 0 0 = s.y + leftOf c g r := by
  cases h with
  | row y a g r hr => exact hp.boundary (Or.inr hr)
  | group y a g t hg => exact hp.boundary (Or.inl (Nat.pos_of_ne_zero hg))
  | imcu y a t => exact hp.boundary_here

/-- with nothing in the conversion buffer `increment_simple_rowgroup_ctr` does not look at `rows_to_go` -/
theorem incSimple_rtg (s : St) (rows x : Nat) (h : s.nro = c.v) :
    incSimple c { s with rtg := x } rows = incSimple c s rows := by
  have hnv : ¬ c.v < c.v := Nat.lt_irrefl _
  by_cases hp : 0 < rows
  · cases hb : s.bf
    · simp [incSimple, fillBuf, jump, readDiscard, h, hnv, hp, hb]
    · simp [incSimple, fillBuf, jump, readDiscard, h, hnv, hp, hb]
  · simp [incSimple, jump, readDiscard, h, hnv, hp]

theorem skip_spec (s : St) (n : Nat) (hinv : Inv c s) :
    Inv c (skip c s n).1 ∧ (skip c s n).2 = min n (c.H - s.y) ∧ (skip c s n).1.y = s.y + min n (c.H - s.y) := by
  refine skip_frame St.y (Inv c) hinv hinv.1 ⟨⟨Nat.le_refl _, fun h => absurd h (Nat.lt_irrefl _)⟩, rfl⟩ _ rfl
    (fun hlt hy _ => ?_)
  obtain ⟨a, g, r, hp, hat⟩ := hinv.2 hy
  by_cases hin : n < leftOf c g r
  · obtain ⟨j1, j2⟩ := incSimple_spec c s hp hat (Nat.lt_of_lt_of_le (Nat.add_lt_add_left hin _) hp.left_le) hlt
    simp only [hp.left, hin, if_true]
    exact ⟨j1, trivial, j2⟩
  · -- the skip leaves the current iMCU row: the `leftOf` rows of it are dropped, whole iMCU rows are stepped over by
    -- moving `output_iMCU_row`, the rest is left to `incSimple`
    have hM := Nat.zero_lt_of_lt hp.1
    have hv := Nat.zero_lt_of_lt hp.2.1
    have hL : 0 < c.M * c.v := Nat.mul_pos hM hv
    simp only [hp.left, hin, if_false, Nat.mul_div_cancel _ hL]
    obtain ⟨q, hq, _, f2, f3, _⟩ := whole_rows (c.M * c.v) (Nat.le_refl _) (rest_add (Nat.le_of_not_lt hin)) hlt
    rw [hq]
    obtain ⟨i1, i2⟩ := incSimple_spec c (imcuAt c (s.y + leftOf c g r + q * (c.M * c.v)) (s.irow + q) s)
      ⟨hM, hv, by show s.y + leftOf c g r + _ = _; rw [lineOf_add, hat.boundary hp]⟩ (.imcu _ _ _)
      (by rw [Nat.zero_mul, Nat.zero_add, ← hq]; exact (div_rest _ hL).2) f2
    -- `incSimple` is entered with the `rows_to_go` of the first boundary, which it does not look at, and leaves it up to date
    rw [← incSimple_rtg c _ _ (c.H - (s.y + leftOf c g r)) rfl] at i1 i2
    have i3 := i1.set_rtg (by rw [i2]; exact f2)
    exact ⟨i3.symm ▸ i1, trivial, i2.trans f3⟩

theorem run_spec (hM : 0 < c.M) (hv : 0 < c.v) (calls : List Call) :
    Inv c (run c (init c) calls).1 ∧ ∀ ip ∈ (run c (init c) calls).2, RowOK c ip :=
  (runs c).rows c (fun s _ => Inv c s) (fun s n _ h => read_ok c s n h)
    (fun s n _ h => (skip_spec c s n h).1) calls [] (init c) (init_inv c hM hv)

end LJT.Skip
