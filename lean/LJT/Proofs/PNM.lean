import LJT.Model.PNM
/-! PPM/PGM files (C18).  What a successful `load` guarantees: numbers and samples within their bounds (`readInt_le`,
`readText_le`, `readRaw_le`, `mkPixel_range`).  What `save` writes is read back: a number printed in decimal
(`decAux_spec`, `readDigits_digits`, through the value `decVal` of a digit string), a row of one- or two-byte samples
(`encRow8`, `words_encRow`), the rows of an image (`chunk_flatten_map`). -/
namespace LJT.PNM

theorem readDigits_le (m fuel val : Nat) (s : List Nat) (v : Nat) (r : List Nat)
    (hval : val ≤ m) (h : readDigits m fuel val s = .ok (v, r)) : v ≤ m := by
  -- one case per branch of `readDigits`, in the order of its text; a case binds the branch's variables, the conditions
  -- passed on the way, then the induction hypothesis, and `h` speaks of the branch's result
  fun_induction readDigits m fuel val s with
  | case1 => cases h; exact hval
  | case2 => cases h
  | case3 fuel val s c r' _ _ _ hbig ih => exact ih (Nat.le_of_not_lt hbig) h
  | case4 => cases h; exact hval
  | case5 => cases h; exact hval

theorem readInt_le (m : Nat) (s : List Nat) (v : Nat) (r : List Nat) (h : readInt m s = .ok (v, r)) : v ≤ m := by
  revert h
  fun_cases readInt m s with
  | case1 | case2 | case3 => nofun
  | case4 c r' _ _ hle => exact readDigits_le m _ _ _ _ _ (Nat.le_of_not_lt hle)

theorem mul_add_half_div (m k : Nat) (hm : 1 ≤ m) : (k * m + m / 2) / m = k := by
  rw [Nat.mul_comm, Nat.mul_add_div hm, Nat.div_eq_of_lt (Nat.div_lt_self hm (by decide)), Nat.add_zero]

theorem words_all_le (maxval : Nat) (l : List Nat) (h : (words l).any (· > maxval) = false) :
    ∀ x ∈ words l, x ≤ maxval := by
  intro x hx
  have := List.any_eq_false.1 h x hx
  simpa using this

section
variable (P maxval : Nat)

theorem rescale_id (v : Nat) (hm : 1 ≤ maxval) (hfull : maxval = 2 ^ P - 1) :
    rescale P maxval v = v := by
  unfold rescale
  rw [← hfull]
  exact mul_add_half_div maxval v hm

theorem rescale_zero (hm : 1 ≤ maxval) : rescale P maxval 0 = 0 := by
  unfold rescale
  rw [Nat.zero_mul, Nat.zero_add]
  exact Nat.div_eq_of_lt (by omega)

theorem rescale_max (hm : 1 ≤ maxval) : rescale P maxval maxval = 2 ^ P - 1 := by
  unfold rescale
  rw [Nat.mul_comm]
  exact mul_add_half_div maxval _ hm

theorem rescale_mono (a b : Nat) (hab : a ≤ b) : rescale P maxval a ≤ rescale P maxval b :=
  Nat.div_le_div_right (Nat.add_le_add_right (Nat.mul_le_mul_right _ hab) _)

theorem rescale_le (v : Nat) (hm : 1 ≤ maxval) (hv : v ≤ maxval) : rescale P maxval v ≤ 2 ^ P - 1 :=
  rescale_max P maxval hm ▸ rescale_mono P maxval v maxval hv

theorem byteSample_le (b : Nat) (hm : 1 ≤ maxval) : byteSample P maxval b ≤ 2 ^ P - 1 := by
  unfold byteSample
  split
  · exact rescale_le P maxval b hm (by assumption)
  · omega

theorem byteSample_id (v : Nat) (hm : 1 ≤ maxval) (hfull : maxval = 2 ^ P - 1) (hv : v ≤ maxval) :
    byteSample P maxval v = v := by
  rw [byteSample, if_pos hv]; exact rescale_id P maxval v hm hfull

theorem readText_le (hm : 1 ≤ maxval) (n : Nat) (s : List Nat) (l : List Nat)
    (h : readText P maxval n s = .ok l) : ∀ x ∈ l, x ≤ 2 ^ P - 1 := by
  fun_induction readText P maxval n s generalizing l with
  | case1 => cases h; nofun
  | case2 => cases h
  | case3 => cases h
  | case4 n s v r hv l' hl' ih =>
    cases h
    exact List.forall_mem_cons.2 ⟨rescale_le P maxval v hm (readInt_le _ _ _ _ hv), ih l' hl'⟩

theorem readRaw_le (rs : Nat) (wide : Bool) (hm : 1 ≤ maxval) (h : Nat) (s : List Nat) (l : List Nat)
    (hl : readRaw P maxval rs wide h s = .ok l) : ∀ x ∈ l, x ≤ 2 ^ P - 1 := by
  fun_induction readRaw P maxval rs wide h s generalizing l with
  | case1 => cases hl; nofun
  | case2 => cases hl
  | case3 => cases hl
  | case4 => cases hl
  | case5 h s nb _ row vals hbad l' hl' ih =>
    cases hl
    intro x hx
    rcases List.mem_append.1 hx with hx | hx
    · -- two-byte samples have passed the range check, one-byte samples go through `byteSample`
      by_cases hw : wide = true
      · subst hw
        obtain ⟨a, ha, rfl⟩ := List.mem_map.1 hx
        exact rescale_le P maxval a hm (words_all_le maxval row (Bool.eq_false_iff.2 fun h => hbad ⟨rfl, h⟩) a ha)
      · rw [if_neg hw] at hx
        obtain ⟨a, _, rfl⟩ := List.mem_map.1 hx
        exact byteSample_le P maxval a hm
    · exact ih l' hl' x hx

end

theorem mkPixel_range (lay : Nat × Nat × Nat × Option Nat × Nat) (P r g b : Nat)
    (hr : r ≤ 2 ^ P - 1) (hg : g ≤ 2 ^ P - 1) (hb : b ≤ 2 ^ P - 1) :
    ∀ x ∈ mkPixel lay P r g b, -1 ≤ x ∧ x ≤ ((2 ^ P - 1 : Nat) : Int) := by
  obtain ⟨ri, gi, bi, ai, ps⟩ := lay
  intro x hx
  obtain ⟨i, _, rfl⟩ := List.mem_map.1 hx
  generalize 2 ^ P - 1 = m at *
  have key : ∀ v : Nat, v ≤ m → -1 ≤ (v : Int) ∧ (v : Int) ≤ m := fun v hv => by omega
  by_cases h1 : i = ri
  · rw [if_pos h1]; exact key r hr
  · rw [if_neg h1]
    by_cases h2 : i = gi
    · rw [if_pos h2]; exact key g hg
    · rw [if_neg h2]
      by_cases h3 : i = bi
      · rw [if_pos h3]; exact key b hb
      · rw [if_neg h3]
        by_cases h4 : ai = some i
        · rw [if_pos h4]; exact key m (Nat.le_refl m)
        · rw [if_neg h4]; exact ⟨Int.le_refl _, by omega⟩

theorem chunk_mem {α : Type} (n k : Nat) (l : List α) (c : List α) (hc : c ∈ chunk n k l) : ∀ y ∈ c, y ∈ l := by
  fun_induction chunk n k l with
  | case1 => cases hc
  | case2 k l ih =>
    intro y hy
    rcases List.mem_cons.1 hc with rfl | hc
    · exact List.mem_of_mem_take hy
    · exact List.mem_of_mem_drop (ih hc y hy)

theorem triples_mem (l : List Nat) (t : Nat × Nat × Nat) (h : t ∈ triples l) : t.1 ∈ l ∧ t.2.1 ∈ l ∧ t.2.2 ∈ l := by
  fun_induction triples l with
  | case1 r g b rest ih =>
    rcases List.mem_cons.1 h with rfl | h
    · simp
    · have := ih h
      simp [this]
  | case2 => cases h

theorem rows_mem {α : Type} (bu : Bool) (rows : List α) (row : α) (h : row ∈ (if bu = true then rows.reverse else rows)) :
    row ∈ rows := by
  cases bu <;> simpa using h

/-- the number `read_pbm_integer` has after reading the digits `l` (ASCII, `'0'` = 48) onto the value `init` -/
def decVal (init : Nat) (l : List Nat) : Nat := l.foldl (fun v d => v * 10 + (d - 48)) init

theorem decVal_ge (l : List Nat) (v : Nat) : v ≤ decVal v l := by
  induction l generalizing v with
  | nil => exact Nat.le_refl v
  | cons d t ih => exact Nat.le_trans (by omega) (ih (v * 10 + (d - 48)))

/-- 35 = `'#'`, which starts a comment -/
theorem isDigit_ne_hash {d : Nat} (h : isDigit d = true) : d ≠ 35 := by
  simp [isDigit] at h; omega

theorem isDigit_not_ws {d : Nat} (h : isDigit d = true) : isWs d = false := by
  simp [isDigit] at h
  simp [isWs]
  omega

theorem readDigits_digits (m : Nat) (c : Nat) (rest : List Nat) (hc : isDigit c = false) (hc2 : c ≠ 35)
    (ds : List Nat) (fuel val : Nat) (hd : ∀ d ∈ ds, isDigit d = true) (hV : decVal val ds ≤ m) (hf : ds.length < fuel) :
    readDigits m fuel val (ds ++ c :: rest) = .ok (decVal val ds, rest) := by
  induction ds generalizing fuel val with
  | nil =>
    obtain ⟨f, rfl⟩ := Nat.exists_eq_add_of_lt hf
    simp [readDigits, pbmGetc, hc2, hc, decVal]
  | cons d t ih =>
    obtain ⟨f, rfl⟩ := Nat.exists_eq_add_of_lt hf
    have hdd : isDigit d = true := hd d (List.mem_cons_self ..)
    have hne := isDigit_ne_hash hdd
    have hV' : decVal (val * 10 + (d - 48)) t ≤ m := hV
    have hle : val * 10 + (d - 48) ≤ m := Nat.le_trans (decVal_ge t _) hV'
    simp only [List.cons_append, readDigits, pbmGetc, hne, if_false, hdd, if_true]
    rw [if_neg (Nat.not_lt.2 hle)]
    rw [ih _ _ (fun x hx => hd x (List.mem_cons_of_mem _ hx)) hV' (Nat.lt_of_succ_lt_succ hf)]
    rfl

/-- on a digit, `read_pbm_integer` is its digit loop from 0 -/
theorem readInt_digit (m d : Nat) (r : List Nat) (hd : isDigit d = true) :
    readInt m (d :: r) = readDigits m (r.length + 2) 0 (d :: r) := by
  simp only [readInt, skipWs, readDigits, pbmGetc, isDigit_ne_hash hd, isDigit_not_ws hd, hd, if_false, if_true,
    Bool.false_eq_true, Bool.not_true, Nat.zero_mul, Nat.zero_add]

theorem isDigit_add (k : Nat) (hk : k < 10) : isDigit (48 + k) = true := by
  simp [isDigit]; omega

theorem decAux_spec (fuel n : Nat) (acc : List Nat) (h : n < fuel) (hacc : ∀ d ∈ acc, isDigit d = true) :
    decDigitsAux fuel n acc ≠ [] ∧ (∀ d ∈ decDigitsAux fuel n acc, isDigit d = true) ∧
      decVal 0 (decDigitsAux fuel n acc) = decVal n acc := by
  fun_induction decDigitsAux fuel n acc with
  | case1 => cases h
  | case2 fuel n acc h10 =>
    refine ⟨List.cons_ne_nil _ _, List.forall_mem_cons.2 ⟨isDigit_add n h10, hacc⟩, ?_⟩
    show decVal (0 * 10 + (48 + n - 48)) acc = decVal n acc
    rw [Nat.zero_mul, Nat.zero_add, Nat.add_sub_cancel_left]
  | case3 fuel n acc h10 ih =>
    obtain ⟨i1, i2, i3⟩ := ih (by omega) (List.forall_mem_cons.2 ⟨isDigit_add _ (Nat.mod_lt n (by decide)), hacc⟩)
    refine ⟨i1, i2, i3.trans ?_⟩
    show decVal (n / 10 * 10 + (48 + n % 10 - 48)) acc = decVal n acc
    rw [Nat.add_sub_cancel_left, Nat.mul_comm, Nat.div_add_mod]

theorem readInt_skip_ws (m wsc : Nat) (s : List Nat) (hws : isWs wsc = true) : readInt m (wsc :: s) = readInt m s := by
  have h35 : wsc ≠ 35 := by simp [isWs] at hws; omega
  simp only [readInt, List.length_cons, skipWs, pbmGetc, h35, if_false, hws, if_true]

/-- the bytes of one row as `tj3SaveImage*` writes them: one byte per sample for `bits` = 8, else two, high byte first -/
def encRow (bits : Nat) (row : List Nat) : List Nat := row.flatMap (putSample bits)

theorem map_eq_self {f : Nat → Nat} {r : List Nat} (h : ∀ v ∈ r, f v = v) : r.map f = r :=
  (List.map_congr_left h).trans (List.map_id r)

theorem encRow8 (r : List Nat) (h : ∀ v ∈ r, v ≤ 255) : encRow 8 r = r := by
  have : putSample 8 = fun v => [v % 256] := by funext v; simp [putSample]
  rw [encRow, this, ← List.map_eq_flatMap]
  exact map_eq_self (fun v hv => Nat.mod_eq_of_lt (Nat.lt_succ_of_le (h v hv)))

/-- every sample type but the 8-bit one writes two bytes, high byte first, and `words` reads them back -/
theorem words_encRow {bits : Nat} (hb : bits ≠ 8) (r : List Nat) (h : ∀ v ∈ r, v ≤ 65535) :
    words (encRow bits r) = r ∧ (encRow bits r).length = r.length * 2 := by
  induction r with
  | nil => simp [encRow, words]
  | cons a t ih =>
    have ha : a ≤ 65535 := h a (List.mem_cons_self ..)
    obtain ⟨h1, h2⟩ := ih (fun v hv => h v (List.mem_cons_of_mem _ hv))
    simp only [encRow, List.flatMap_cons, putSample, if_neg hb] at *
    simp only [List.cons_append, List.nil_append, words, h1, List.length_cons, h2]
    refine ⟨?_, (Nat.succ_mul t.length 2).symm⟩
    rw [Nat.mod_eq_of_lt (Nat.div_lt_of_lt_mul (Nat.lt_succ_of_le ha)), Nat.div_add_mod']

theorem chunk_flatten_map {α β : Type} (f : α → β) (w : Nat) (rs : List (List α)) (h : ∀ r ∈ rs, r.length = w) :
    chunk w rs.length (rs.flatten.map f) = rs.map (List.map f) := by
  induction rs with
  | nil => simp [chunk]
  | cons r t ih =>
    have hr : r.length = w := h r (by simp)
    have hr' : (List.map f r).length = w := by simpa using hr
    simp only [List.flatten_cons, List.map_append, List.length_cons, chunk, List.map_cons]
    rw [List.take_left' hr', List.drop_left' hr', ih (fun r' hr'' => h r' (by simp [hr'']))]

end LJT.PNM
