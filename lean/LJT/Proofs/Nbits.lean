import LJT.Model.Nbits
/-! Every entry of both copies of `jpeg_nbits_table` equals floor(log2 x)+1 (0 for 0).

The packed literal regenerated from the C table is compared, as one number, with `specPacked 16`,
built by doubling (entry 0 is 0, entries `2^j .. 2^(j+1)-1` all hold `j+1`); that the base-32
digits of `specPacked k` are `nbitsSpec` is proved for every `k ≤ 31`. -/
namespace LJT

theorem nbitsSpec_bounds (x : Nat) (h : x ≠ 0) :
    2 ^ (nbitsSpec x - 1) ≤ x ∧ x < 2 ^ nbitsSpec x := by
  simp only [nbitsSpec, h, if_false]
  exact ⟨by simpa using Nat.log2_self_le h, Nat.lt_log2_self⟩

theorem nbitsSpec_unique (x n : Nat) (h : x ≠ 0) (h1 : 2 ^ (n - 1) ≤ x) (h2 : x < 2 ^ n) :
    nbitsSpec x = n := by
  simp only [nbitsSpec, h, if_false]
  have hn : n ≠ 0 := by
    intro h0; subst h0; simp at h2; exact h h2
  have : x.log2 = n - 1 := (Nat.log2_eq_iff h).2 ⟨h1, by rwa [Nat.sub_add_cancel (by omega)]⟩
  omega

theorem nbitsClz_eq (fuel x : Nat) (h : x < 2 ^ fuel) : nbitsClz fuel x = nbitsSpec x := by
  induction fuel generalizing x with
  | zero =>
    obtain rfl : x = 0 := Nat.lt_one_iff.1 h
    rfl
  | succ k ih =>
    unfold nbitsClz
    by_cases hx : x = 0
    · rw [if_pos hx, hx]; rfl
    · -- halving takes one off the logarithm, or `x = 1`
      rw [if_neg hx, ih _ (Nat.div_lt_of_lt_mul (Nat.pow_succ' ▸ h)), nbitsSpec, nbitsSpec, if_neg hx, Nat.log2_def x]
      by_cases h2 : 2 ≤ x
      · rw [if_pos h2, if_neg (by omega)]
      · rw [if_neg h2, if_pos (by omega)]

/-- `2 ^ k` base-32 digits, each `c`: a block doubles by a copy of itself shifted to the next `2 ^ k` places -/
def constBlock (c : Nat) : Nat → Nat
  | 0 => c
  | k + 1 => constBlock c k + constBlock c k * 32 ^ 2 ^ k

/-- the first `2^k` table entries, 5 bits each, as one number -/
def specPacked : Nat → Nat
  | 0 => 0
  | k + 1 => specPacked k + constBlock (k + 1) k * 32 ^ 2 ^ k

/-- digits below position `m` come from `a`, digits from `m` on from `b` -/
theorem digit_add_mul (a b m i : Nat) (ha : a < 32 ^ m) :
    (a + b * 32 ^ m) / 32 ^ i % 32 = if i < m then a / 32 ^ i % 32 else b / 32 ^ (i - m) % 32 := by
  split
  · next h =>
    -- digit `i` is read off the remainder modulo `32 ^ (i + 1)`, which divides `b * 32 ^ m`
    rw [← Nat.mod_mul_right_div_self, ← Nat.pow_succ, Nat.add_mod,
      Nat.mod_eq_zero_of_dvd (Nat.dvd_mul_left_of_dvd (Nat.pow_dvd_pow 32 h) b), Nat.add_zero, Nat.mod_mod, Nat.pow_succ,
      Nat.mod_mul_right_div_self]
  · next h =>
    have : i = m + (i - m) := by omega
    rw [this, Nat.pow_add, ← Nat.div_div_eq_div_mul, Nat.mul_comm b, Nat.add_mul_div_left _ _ (Nat.pow_pos (by decide)),
      Nat.div_eq_of_lt ha, Nat.zero_add, ← this]

/-- two halves of `2 ^ k` digits make `2 ^ (k + 1)` digits -/
theorem halves_lt {k a b : Nat} (ha : a < 32 ^ 2 ^ k) (hb : b < 32 ^ 2 ^ k) : a + b * 32 ^ 2 ^ k < 32 ^ 2 ^ (k + 1) := by
  rw [Nat.pow_succ, Nat.pow_mul, Nat.pow_two]
  have := Nat.mul_le_mul_right (32 ^ 2 ^ k) (Nat.succ_le_of_lt hb)
  rw [Nat.succ_mul] at this
  omega

theorem constBlock_lt {c : Nat} (hc : c < 32) : ∀ k, constBlock c k < 32 ^ 2 ^ k
  | 0 => hc
  | k + 1 => halves_lt (constBlock_lt hc k) (constBlock_lt hc k)

theorem specPacked_lt : ∀ k, k ≤ 31 → specPacked k < 32 ^ 2 ^ k
  | 0, _ => by decide
  | k + 1, hk => halves_lt (specPacked_lt k (by omega)) (constBlock_lt (by omega) k)

theorem constBlock_digit {c : Nat} (hc : c < 32) (k i : Nat) (hi : i < 2 ^ k) : constBlock c k / 32 ^ i % 32 = c := by
  induction k generalizing i with
  | zero =>
    obtain rfl : i = 0 := by omega
    rw [constBlock, Nat.pow_zero, Nat.div_one, Nat.mod_eq_of_lt hc]
  | succ k ih =>
    rw [Nat.pow_succ] at hi
    rw [constBlock, digit_add_mul _ _ _ _ (constBlock_lt hc k)]
    split
    · next h => exact ih i h
    · exact ih _ (by omega)

theorem specPacked_digit (k : Nat) (hk : k ≤ 31) (i : Nat) (hi : i < 2 ^ k) : specPacked k / 32 ^ i % 32 = nbitsSpec i := by
  induction k with
  | zero =>
    obtain rfl : i = 0 := by omega
    rfl
  | succ k ih =>
    rw [specPacked, digit_add_mul _ _ _ _ (specPacked_lt k (by omega))]
    split
    · next h => exact ih (by omega) h
    · next h =>
      -- an upper digit is `k + 1`, and `2 ^ k ≤ i < 2 ^ (k + 1)`
      have hpos := Nat.pow_pos (n := k) (by decide : 0 < 2)
      have hlo : 2 ^ (k + 1 - 1) ≤ i := Nat.le_of_not_lt h
      rw [constBlock_digit (by omega) k _ (by rw [Nat.pow_succ] at hi; omega)]
      exact (nbitsSpec_unique i (k + 1) (by omega) hlo hi).symm

theorem specPacked_entry (i : Nat) (h : i < 65536) : (specPacked 16 >>> (5 * i)) &&& 31 = nbitsSpec i := by
  rw [Nat.shiftRight_eq_div_pow, Nat.pow_mul, show (31 : Nat) = 2 ^ 5 - 1 from rfl, Nat.and_two_pow_sub_one_eq_mod]
  exact specPacked_digit 16 (by decide) i h

theorem nbitsTbl_correct (i : Nat) (h : i < 65536) : nbitsTbl i = nbitsSpec i := by
  rw [nbitsTbl, show Gen.nbitsPacked = specPacked 16 by decide +kernel]
  exact specPacked_entry i h

theorem nbitsTblSimd_correct (i : Nat) (h : i < 65536) : nbitsTblSimd i = nbitsSpec i := by
  rw [nbitsTblSimd, show Gen.Simd.nbitsPacked = specPacked 16 by decide +kernel]
  exact specPacked_entry i h

end LJT
