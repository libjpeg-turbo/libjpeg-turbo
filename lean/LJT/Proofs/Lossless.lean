import LJT.Model.Lossless
import LJT.Proofs.ListAux
import LJT.Proofs.Nbits
import LJT.Proofs.Huff
/-! The lossless codec, layer by layer: undifferencing undoes differencing for any differences congruent modulo 2^16
to the compressor's; both sides reset their predictors on the same rows; the decoder reconstructs from category and
extra bits the value `recon d`, congruent to the difference `d`; and the Huffman-coded items of an MCU, and of a run
of MCUs, decode to exactly those values. -/
namespace LJT.LL

def Cong16 (a b : Int) : Prop := a % 65536 = b % 65536

def InRange (l : List Int) : Prop := ∀ c ∈ l, 0 ≤ c ∧ c < 65536

theorem m16_undo {d p c : Int} (h : Cong16 d (c - p)) (hc : 0 ≤ c ∧ c < 65536) : m16 (d + p) = c := by
  unfold Cong16 at h
  unfold m16
  rw [← Int.emod_add_emod, h, Int.emod_add_emod, Int.sub_add_cancel, Int.emod_eq_of_lt hc.1 hc.2]

theorem undiff1D_diff1D {cs ds : List Int} {Ra : Int} (hr : InRange cs) (h : All2 Cong16 ds (diff1D Ra cs)) :
    undiff1D Ra ds = cs := by
  induction cs generalizing ds Ra with
  | nil => cases h; rfl
  | cons c cs ih =>
    obtain ⟨hc, hr⟩ := List.forall_mem_cons.1 hr
    cases h with
    | cons hd htl => simp only [undiff1D, m16_undo hd hc, ih hr htl]

theorem undiffTail_diffTail {psv : Nat} {cs ds prev : List Int} {Ra Rc : Int} (hr : InRange cs)
    (hl : cs.length = prev.length) (h : All2 Cong16 ds (diffTail psv Ra Rc cs prev)) :
    undiffTail psv Ra Rc ds prev = cs := by
  induction cs generalizing ds prev Ra Rc with
  | nil => cases h; rfl
  | cons c cs ih =>
    obtain ⟨hc, hr⟩ := List.forall_mem_cons.1 hr
    match prev, hl, h with
    | Rb :: ps, hl, .cons hd htl =>
      simp only [undiffTail, m16_undo hd hc, ih hr (Nat.succ.inj hl) htl]

theorem diffFirstRow_eq (init : Int) (cs : List Int) : diffFirstRow init cs = diff1D init cs := by
  cases cs <;> rfl

theorem undiffFirstRow_eq (init : Int) (ds : List Int) : undiffFirstRow init ds = undiff1D init ds := by
  cases ds <;> rfl

theorem undiffRow_diffRow {psv : Nat} {prev cs ds : List Int} (hr : InRange cs)
    (hl : cs.length = prev.length) (h : All2 Cong16 ds (diffRow psv prev cs)) :
    undiffRow psv prev ds = cs := by
  cases cs with
  | nil => cases h; rfl
  | cons c cs =>
    obtain ⟨hc, hr⟩ := List.forall_mem_cons.1 hr
    match prev, hl, h with
    | p :: ps, hl, .cons hd htl =>
      simp only [undiffRow, m16_undo hd hc]
      by_cases h1 : psv = 1
      · rw [if_pos h1] at htl ⊢
        rw [undiff1D_diff1D hr htl]
      · rw [if_neg h1] at htl ⊢
        rw [undiffTail_diffTail hr (Nat.succ.inj hl) htl]

/-- `prev` is looked at only when the first flag is `false`: hence `hp` -/
theorem undiffRows_diffRows {psv : Nat} {init : Int} {w : Nat} {rows dss : List (List Int)} {flags : List Bool}
    {prev : List Int} (hr : ∀ r ∈ rows, InRange r) (hw : ∀ r ∈ rows, r.length = w)
    (hp : flags.headD true = true ∨ prev.length = w) (hl : rows.length = flags.length)
    (h : All2 (All2 Cong16) dss (diffRows psv init flags prev rows)) :
    undiffRows psv init flags prev dss = rows := by
  induction rows generalizing dss flags prev with
  | nil => cases flags <;> (cases h; rfl)
  | cons row rows ih =>
    obtain ⟨hrow, hr⟩ := List.forall_mem_cons.1 hr
    obtain ⟨hwrow, hw⟩ := List.forall_mem_cons.1 hw
    match flags, hp, hl, h with
    | f :: fs, hp, hl, .cons (a := ds) hd htl =>
      have e : (if f = true then undiffFirstRow init ds else undiffRow psv prev ds) = row := by
        by_cases hf : f = true
        · rw [if_pos hf, diffFirstRow_eq] at hd
          rw [if_pos hf, undiffFirstRow_eq]
          exact undiff1D_diff1D hrow hd
        · rw [if_neg hf] at hd ⊢
          exact undiffRow_diffRow hrow (hwrow.trans (hp.resolve_left hf).symm) hd
      simp only [undiffRows, e]
      rw [ih hr hw (Or.inr hwrow) (Nat.succ.inj hl) htl]

/-- the decompressor's state once a pending restart has been processed (`process_restart` when the counter is 0) -/
def afterRestart (R : Nat) (st : Bool × Nat) : Bool × Nat := if R > 0 ∧ st.2 = 0 then (true, R) else st

theorem decStep_eq (R : Nat) (st : Bool × Nat) : decStep R st =
    ((afterRestart R st).1, (false, if R > 0 then (afterRestart R st).2 - 1 else (afterRestart R st).2)) := rfl

/-- the compressor processes a restart at the end of the row that completes the interval, the decompressor before
the next row: after any row the compressor's state is the decompressor's with its pending restart processed -/
theorem encStep_eq (R : Nat) (st : Bool × Nat) : encStep R st =
    (st.1, afterRestart R (false, if R > 0 then st.2 - 1 else st.2)) := by
  unfold encStep afterRestart
  exact (apply_ite (Prod.mk st.1) _ _ _).symm

theorem flags_sync (R : Nat) : ∀ (n : Nat) (se sd : Bool × Nat), se = afterRestart R sd →
    encFlags R n se = decFlags R n sd
  | 0, _, _, _ => rfl
  | n + 1, se, sd, h => by
    subst h
    rw [encFlags, decFlags, encStep_eq, decStep_eq]
    exact congrArg _ (flags_sync R n _ _ rfl)

/-- **restart_sync**: for every restart interval (in rows) the compressor and the
decompressor reset their predictors on exactly the same rows -/
theorem restart_sync (R n : Nat) : encFlags R n (true, R) = decFlags R n (true, R) :=
  -- processing a restart in the initial state `(true, R)` gives `(true, R)` again
  flags_sync R n _ _ (ite_self _).symm

theorem encFlags_headD (R n : Nat) (st : Bool × Nat) : (encFlags R n st).headD st.1 = st.1 := by
  cases n with
  | zero => rfl
  | succ n => rw [encFlags, encStep_eq]; rfl

theorem encFlags_length (R : Nat) : ∀ n st, (encFlags R n st).length = n := by
  intro n; induction n with
  | zero => intro _; rfl
  | succ n ih => intro st; simp [encFlags, ih]

theorem downscale_length (Pt : Nat) (rows : List (List Nat)) : (downscale Pt rows).length = rows.length :=
  List.length_map _

theorem downscale_width (Pt : Nat) (rows : List (List Nat)) (w : Nat) (hw : ∀ r ∈ rows, r.length = w) :
    ∀ r ∈ downscale Pt rows, r.length = w := by
  intro r hr
  obtain ⟨r0, hr0, rfl⟩ := List.mem_map.1 hr
  rw [List.length_map, hw r0 hr0]

theorem downscale_inRange (Pt : Nat) (rows : List (List Nat)) (h16 : ∀ r ∈ rows, ∀ s ∈ r, s < 65536) :
    ∀ r ∈ downscale Pt rows, InRange r := by
  intro r hr
  obtain ⟨r0, hr0, rfl⟩ := List.mem_map.1 hr
  intro c hc
  obtain ⟨s, hs, rfl⟩ := List.mem_map.1 hc
  exact ⟨Int.natCast_nonneg _, Int.ofNat_lt.2 (Nat.lt_of_le_of_lt (Nat.shiftRight_le s Pt) (h16 r0 hr0 s hs))⟩

/-- 17 is the fuel `category` gives the shift loop, enough for 16 bits -/
theorem bitLen_small {m : Nat} (h0 : m ≠ 0) (h : m < 32768) : bitLen 17 m = m.log2 + 1 ∧ m.log2 < 15 := by
  unfold bitLen
  rw [nbitsClz_eq 17 m (Nat.lt_trans h (by decide)), nbitsSpec, if_neg h0]
  exact ⟨rfl, (Nat.log2_lt h0).2 h⟩

/-- `HUFF_EXTEND` in a category `k + 1` of 1..15, on extra bits with the top bit set and on their complement -/
theorem extend_top {k m : Nat} (h15 : k < 15) (lo : 2 ^ k ≤ m) (hi : m < 2 ^ (k + 1)) :
    extend (k + 1) m = m ∧ extend (k + 1) (2 ^ (k + 1) - 1 - m) = -(m : Int) := by
  unfold extend
  simp only [if_neg (Nat.succ_ne_zero k), if_neg (Nat.ne_of_lt (Nat.succ_lt_succ h15)), Nat.add_sub_cancel]
  rw [if_neg (Nat.not_lt.2 lo), if_pos (by omega)]
  exact ⟨rfl, by omega⟩

theorem category_exact (v : Int) (hv0 : v ≠ 0) (hv : v.natAbs < 32768) :
    (category v).1 ≠ 0 ∧ (category v).1 < 16 ∧ (category v).2.2 = (category v).1 ∧
    (category v).2.1 < 2 ^ (category v).1 ∧ extend (category v).1 (category v).2.1 = v := by
  -- `v` is `m` or `-m` for its magnitude `m`, which has `m.log2 + 1` bits
  have h0 := Int.natAbs_ne_zero.2 hv0
  have hs := Int.natAbs_eq v
  generalize v.natAbs = m at h0 hv hs
  obtain ⟨hb, h15⟩ := bitLen_small h0 hv
  obtain ⟨e1, e2⟩ := extend_top h15 (Nat.log2_self_le h0) Nat.lt_log2_self
  unfold category
  rcases hs with rfl | rfl
  · rw [Int.emod_eq_of_lt (Int.natCast_nonneg m) (Int.lt_of_lt_of_le (Int.ofNat_lt.2 hv) (by decide)),
      Int.toNat_natCast, if_neg (Nat.not_le.2 hv), hb]
    exact ⟨Nat.succ_ne_zero _, Nat.succ_lt_succ h15, rfl, Nat.lt_log2_self, e1⟩
  · have hm : m ≤ 65536 := Nat.le_of_lt (Nat.lt_trans hv (by decide))
    have e : ((-(m : Int)) % 65536).toNat = 65536 - m := by
      rw [← Int.add_emod_right, Int.add_comm, ← Int.sub_eq_add_neg, Int.emod_eq_of_lt (by omega) (by omega)]
      exact Int.toNat_sub 65536 m
    rw [e, if_pos (Nat.le_sub_of_add_le (Nat.add_le_add_left (Nat.le_of_lt hv) 32768)), Nat.sub_sub_self hm,
      Nat.mod_eq_of_lt hv, if_neg h0, hb]
    -- the extra bits are the low bits of `~m`
    exact ⟨Nat.succ_ne_zero _, Nat.succ_lt_succ h15, rfl,
      Nat.lt_of_le_of_lt (Nat.sub_le _ _) (Nat.sub_lt (Nat.two_pow_pos _) Nat.one_pos), e2⟩

theorem category_congr {d c : Int} (h : Cong16 d c) : category d = category c := by
  unfold category
  rw [h]

theorem extend_category (d : Int) :
    Cong16 (extend (category d).1 (category d).2.1) d ∧ (category d).1 ≤ 16 ∧
    (category d).2.1 < 2 ^ (category d).2.2 ∧
    (category d).2.2 = (if (category d).1 = 16 then 0 else (category d).1) := by
  -- `c`: the representative of `d` in `(-32768, 32768]`; apart from 0 and 32768 it is coded exactly
  obtain ⟨c, hc, hlo, hhi⟩ : ∃ c : Int, Cong16 d c ∧ -32768 < c ∧ c ≤ 32768 :=
    ⟨(d + 32767) % 65536 - 32767, by unfold Cong16; rw [Int.emod_sub_emod, Int.add_sub_cancel], by omega, by omega⟩
  rw [category_congr hc]
  by_cases h0 : c = 0
  · subst h0
    exact ⟨hc.symm, by decide⟩
  · by_cases h1 : c = 32768
    · subst h1
      exact ⟨hc.symm, by decide⟩
    · obtain ⟨_, n16, hn, hex, hext⟩ := category_exact c h0 (by omega)
      rw [hext, hn, if_neg (Nat.ne_of_lt n16)]
      exact ⟨hc.symm, Nat.le_of_lt n16, hex, rfl⟩

/-- what the decoder reconstructs from the category and extra bits coded for the difference `d` -/
def recon (d : Int) : Int := extend (category d).1 (category d).2.1

theorem recon_cong (d : Int) : Cong16 (recon d) d := (extend_category d).1

theorem recon_zero : recon 0 = 0 := by decide

theorem recon_small (v : Int) (hv : v.natAbs < 32768) : recon v = v := by
  by_cases h0 : v = 0
  · rw [h0, recon_zero]
  · exact (category_exact v h0 hv).2.2.2.2

open LJT.Huff

/-- reading the bits of `v` back in, most significant first, onto the part of `v` above them gives `v` -/
theorem foldl_codeBits (v : Nat) : ∀ n : Nat,
    (codeBits v n).foldl (fun a b => a * 2 + (if b then 1 else 0)) (v >>> n) = v
  | 0 => rfl
  | k + 1 => by rw [codeBits_succ, List.foldl_cons, shift_step_dec, foldl_codeBits v k]

theorem bitsNat_natBits (v n : Nat) (h : v < 2 ^ n) : bitsNat (natBits v n) = v := by
  have := foldl_codeBits v n
  rwa [Nat.shiftRight_eq_div_pow, Nat.div_eq_of_lt h] at this

theorem length_natBits (v n : Nat) : (natBits v n).length = n := codeBits_length v n

/-- the three steps of every decoder that reads `n` extra bits, on `natBits v n` followed by anything -/
theorem natBits_read {v n : Nat} (h : v < 2 ^ n) (X : List Bool) :
    ¬ (natBits v n ++ X).length < n ∧ bitsNat ((natBits v n ++ X).take n) = v ∧ (natBits v n ++ X).drop n = X := by
  have hl := length_natBits v n
  refine ⟨?_, ?_, List.drop_left' hl⟩
  · rw [List.length_append, hl]
    exact Nat.not_lt.2 (Nat.le_add_right n _)
  · rw [List.take_left' hl]
    exact bitsNat_natBits v n h

theorem itemBits_some {c : CDerived} {d : Int} {bs : List Bool} (h : itemBits c d = some bs) :
    ∃ code, encode c (category d).1 = some code ∧ bs = code ++ natBits (category d).2.1 (category d).2.2 := by
  unfold itemBits at h
  dsimp only at h
  split at h
  · cases h
  · rename_i code hcode
    exact ⟨code, hcode, (Option.some.inj h).symm⟩

/-- number of extra bits behind the symbol of category `s` (the proofs' name for it: `decodeItem` and `category` treat
the categories 0 and 16 case by case) -/
def extraBits (s : Nat) : Nat := if s = 16 then 0 else s

theorem extraBits_le (s : Nat) : extraBits s ≤ s := by
  unfold extraBits
  split <;> omega

/-- the categories 0 and 16 are categories without extra bits, for which `extend` does not look at its argument -/
theorem decodeItem_eq (dd : DDerived) (bs : List Bool) : decodeItem dd bs =
    (decode dd bs).bind fun (s, _, rest) =>
      if rest.length < extraBits s then none
      else some (extend s (bitsNat (rest.take (extraBits s))), rest.drop (extraBits s)) := by
  unfold decodeItem
  cases decode dd bs with
  | none => rfl
  | some x =>
    obtain ⟨s, f, rest⟩ := x
    dsimp only [Option.bind_some]
    by_cases h0 : s = 0
    · subst h0; rfl
    · by_cases h16 : s = 16
      · subst h16; rfl
      · rw [if_neg h0, if_neg h16, extraBits, if_neg h16]

theorem decodeItem_itemBits (isDC lossless : Bool) (t : Tbl) (c : CDerived) (dd : DDerived)
    (hc : mkCDerived isDC lossless t = some c) (hd : mkDDerived isDC lossless t = some dd)
    (d : Int) (bs rest : List Bool) (h : itemBits c d = some bs) :
    decodeItem dd (bs ++ rest) = some (recon d, rest) := by
  obtain ⟨code, hcode, rfl⟩ := itemBits_some h
  obtain ⟨_, _, hex, hnex⟩ := extend_category d
  obtain ⟨r1, r2, r3⟩ := natBits_read hex rest
  rw [decodeItem_eq, List.append_assoc, decode_encode isDC lossless t c dd hc hd _ code hcode, Option.bind_some]
  dsimp only
  rw [extraBits, ← hnex, if_neg r1, r2, r3]
  rfl

/-- the items of one MCU: components `ci, ci+1, ..` with their differences -/
def mcuItems : Nat → List Int → List (Nat × Int)
  | _, [] => []
  | ci, d :: ds => (ci, d) :: mcuItems (ci + 1) ds

/-- every component uses a Huffman table for which both derived tables exist -/
def TablesOK (cds : List CDerived) (dds : List DDerived) (tblOf : List Nat) (lo hi : Nat) : Prop :=
  ∀ ci, lo ≤ ci → ci < hi → ∃ t, mkCDerived true true t = some (cds.getD (tblOf.getD ci 0) ⟨[], []⟩) ∧
    mkDDerived true true t = some (dds.getD (tblOf.getD ci 0) ⟨[], [], [], []⟩)

theorem segBits_cons_some {cds : List CDerived} {tblOf : List Nat} {ci : Nat} {d : Int} {is : List (Nat × Int)}
    {bits : List Bool} (h : segBits cds tblOf ((ci, d) :: is) = some bits) :
    ∃ b r, itemBits (cds.getD (tblOf.getD ci 0) ⟨[], []⟩) d = some b ∧ segBits cds tblOf is = some r ∧ bits = b ++ r := by
  rw [segBits] at h
  split at h
  · rename_i b r hb hr
    exact ⟨b, r, hb, hr, (Option.some.inj h).symm⟩
  · cases h

section
variable (cds : List CDerived) (dds : List DDerived) (tblOf : List Nat)

theorem segBits_append : ∀ (a b : List (Nat × Int)) (bits : List Bool),
    segBits cds tblOf (a ++ b) = some bits →
    ∃ x y, segBits cds tblOf a = some x ∧ segBits cds tblOf b = some y ∧ bits = x ++ y
  | [], _, bits, h => ⟨[], bits, rfl, h, rfl⟩
  | (ci, d) :: a, b, bits, h => by
    obtain ⟨bi, r, hi, hr, rfl⟩ := segBits_cons_some h
    obtain ⟨x, y, hx, hy, rfl⟩ := segBits_append a b r hr
    refine ⟨bi ++ x, y, ?_, hy, (List.append_assoc ..).symm⟩
    rw [segBits, hi, hx]

theorem decodeMcu_segBits :
    ∀ (ds : List Int) (ci : Nat) (bits tail : List Bool),
      TablesOK cds dds tblOf 0 (ci + ds.length) →
      segBits cds tblOf (mcuItems ci ds) = some bits →
      decodeMcu dds tblOf ds.length ci (bits ++ tail) = some (mcuItems ci (ds.map recon), tail)
  | [], ci, bits, tail, _, h => by
    cases h; rfl
  | d :: ds, ci, bits, tail, htab, h => by
    obtain ⟨b, r, hb, hr, rfl⟩ := segBits_cons_some h
    obtain ⟨t, hc, hd⟩ := htab ci (Nat.zero_le _) (Nat.lt_add_of_pos_right (Nat.succ_pos _))
    have hrest := decodeMcu_segBits ds (ci + 1) r tail (Nat.add_right_comm ci 1 _ ▸ htab) hr
    simp only [List.length_cons, decodeMcu, List.append_assoc, List.map_cons, mcuItems,
      decodeItem_itemBits true true t _ _ hc hd d b (r ++ tail) hb, hrest]

theorem decodeItems_segBits (nc : Nat)
    (htab : TablesOK cds dds tblOf 0 nc) :
    ∀ (mcus : List (List Int)) (bits tail : List Bool), (∀ m ∈ mcus, m.length = nc) →
      segBits cds tblOf (mcus.flatMap (mcuItems 0)) = some bits →
      decodeItems dds tblOf nc mcus.length (bits ++ tail) =
        some ((mcus.map (List.map recon)).flatMap (mcuItems 0), tail)
  | [], bits, tail, _, h => by
    cases h; rfl
  | m :: mcus, bits, tail, hlen, h => by
    obtain ⟨hm, hlen⟩ := List.forall_mem_cons.1 hlen
    rw [List.flatMap_cons] at h
    obtain ⟨x, y, hx, hy, rfl⟩ := segBits_append cds tblOf _ _ bits h
    subst hm
    have hdec := decodeMcu_segBits cds dds tblOf m 0 x (y ++ tail) (by rw [Nat.zero_add]; exact htab) hx
    have hrest := decodeItems_segBits m.length htab mcus y tail hlen hy
    simp only [List.length_cons, decodeItems, List.append_assoc, hdec, hrest, List.map_cons, List.flatMap_cons]

end

end LJT.LL
