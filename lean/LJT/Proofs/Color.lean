import LJT.Model.Color
/-! Packed rows for C10: a pixel packed into any valid layout (`packPixel`, with whatever value in the
other positions) is read back by position (`getD_pack`), so a packed row gives back the colour samples
and the fourth sample where the layout has one (`unpack_pack`); every layout of the
regenerated offset tables is valid, by evaluation of the executable test. -/
namespace LJT.Color

theorem packPixel_length (L : Layout) (p : Int × Int × Int) (f : Int) : (packPixel L p f).length = L.size := by
  simp [packPixel]

theorem getD_pack (L : Layout) (p : Int × Int × Int) (f : Int) (rest : List Int) (k : Nat) (hk : k < L.size) :
    (packPixel L p f ++ rest).getD k 0 =
      if k = L.r then p.1 else if k = L.g then p.2.1 else if k = L.b then p.2.2 else f := by
  unfold packPixel
  rw [List.getD_eq_getElem?_getD, List.getElem?_append_left (by simpa using hk), List.getElem?_map,
    List.getElem?_range hk]
  rfl

theorem unpack_pack (L : Layout) (hv : L.Valid) (px : List ((Int × Int × Int) × Int)) :
    extractRow L px.length (packRow L px) = px.map (·.1) ∧
      alphaRow L px.length (packRow L px) = px.map (fun q => L.a.map (fun _ => q.2)) := by
  obtain ⟨hr, hg, hb, hrg, hrb, hgb, ha⟩ := hv
  fun_induction packRow L px with
  | case1 => exact ⟨rfl, rfl⟩
  | case2 p f rest ih =>
    simp only [List.length_cons, extractRow, alphaRow, List.map_cons, List.drop_left' (packPixel_length L p f), ih.1, ih.2,
      getD_pack L p f _ _ hr, getD_pack L p f _ _ hg, getD_pack L p f _ _ hb]
    constructor
    · simp [hrg.symm, hrb.symm, hgb.symm]
    · congr 1
      cases hA : L.a with
      | none => rfl
      | some a =>
        obtain ⟨h1, h2, h3, h4⟩ := ha a hA
        simp only [Option.map_some, getD_pack L p f _ _ h1, h2, h3, h4, if_false]

/-- a picture packed with any values in the other positions is read back -/
theorem extract_pack_zip (L : Layout) (hv : L.Valid) (px : List (Int × Int × Int)) (f : List Int) (hf : f.length = px.length) :
    extractRow L px.length (packRow L (px.zip f)) = px := by
  have e := (unpack_pack L hv (px.zip f)).1
  rwa [List.length_zip, hf, Nat.min_self, ← List.unzip_fst, List.unzip_zip (by omega)] at e

/-- the regenerated offset tables: every RGB-family pixel format, and every extended colourspace,
has a layout that passes the executable validity test -/
theorem layoutOfPF_validB : ∀ pf, pf < Gen.TJ_NUMPF → pf ≠ Gen.TJPF_GRAY → pf ≠ Gen.TJPF_CMYK →
    (layoutOfPF pf).any Layout.validB = true := by decide

theorem layoutOfCS_validB : ∀ cs, cs ≤ Gen.JCS_EXT_ARGB → Gen.JCS_EXT_RGB ≤ cs →
    (layoutOfCS cs).any Layout.validB = true := by decide

theorem valid_of_any_validB (o : Option Layout) (h : o.any Layout.validB = true) : ∃ L, o = some L ∧ L.Valid := by
  cases o with
  | none => cases h
  | some L => exact ⟨L, rfl, Layout.valid_of_validB L h⟩

end LJT.Color
