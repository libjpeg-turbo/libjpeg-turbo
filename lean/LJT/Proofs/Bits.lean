import LJT.Model.Bits
import LJT.Proofs.ListAux
/-! The byte layer of entropy-coded data.  One segment: the bit reader sees exactly the bits that were written,
followed by the 1-padding of the last byte - packing into bytes and byte stuffing are undone exactly.  A scan:
segments joined by RSTn markers are recovered exactly by splitting at `FF D0..D7`, because byte stuffing leaves no
`FF` followed by anything but `00` inside a segment; hence a scan decoded interval by interval round-trips as soon as
the coder of one interval does (`framed_roundtrip`). -/
namespace LJT.Bits
open LJT.LL

/-- appending a binary digit shifts the bits of the byte by one place -/
theorem byteBits_digit (a : Nat) (b : Bool) :
    byteBits (a * 2 + (if b then 1 else 0)) = (byteBits a).tail ++ [b] := by
  obtain ⟨x, hx⟩ : ∃ x, x = a * 2 + (if b then 1 else 0) := ⟨_, rfl⟩
  have hr : (if b then 1 else 0 : Nat) < 2 := by cases b <;> decide
  have h1 : x / 2 = a := by
    rw [hx, Nat.add_comm, Nat.add_mul_div_right _ _ (by decide), Nat.div_eq_of_lt hr, Nat.zero_add]
  have h (k : Nat) : x / (2 * k) = a / k := by rw [← Nat.div_div_eq_div_mul, h1]
  have p : decide (x % 2 = 1) = b := by
    rw [hx, Nat.add_comm, Nat.add_mul_mod_self_right, Nat.mod_eq_of_lt hr]
    cases b <;> rfl
  rw [← hx]
  unfold byteBits
  rw [(h 64 : x / 128 = _), (h 32 : x / 64 = _), (h 16 : x / 32 = _), (h 8 : x / 16 = _), (h 4 : x / 8 = _),
    (h 2 : x / 4 = _), h1, p]
  rfl

theorem unpack_pack : ∀ (n : Nat) (l : List Bool), l.length = 8 * n → unpackBytes (packBytes l) = l
  | 0, l, h => by
    rw [List.eq_nil_of_length_eq_zero h]
    rfl
  | n + 1, b7 :: b6 :: b5 :: b4 :: b3 :: b2 :: b1 :: b0 :: rest, h => by
    rw [packBytes, unpackBytes, List.flatMap_cons, ← unpackBytes,
      unpack_pack n rest (Nat.add_right_cancel (m := 8) (h.trans (Nat.mul_succ 8 n)))]
    refine congrArg (· ++ rest) (?_ : _ = [b7, b6, b5, b4, b3, b2, b1, b0])
    -- the byte is built from 0 by eight binary digits, and `byteBits 0` holds eight times `false`
    have h7 : (if b7 then 1 else 0) = 0 * 2 + (if b7 then 1 else 0) := by rw [Nat.zero_mul, Nat.zero_add]
    rw [h7]
    simp only [byteBits_digit]
    rfl

theorem unstuff_plain (b : Nat) (l : List Nat) (h : b ≠ 0xFF) : unstuff (b :: l) = b :: unstuff l := by
  cases l <;> simp [unstuff, h]

theorem unstuff_stuff (bs : List Nat) : unstuff (stuff bs) = bs := by
  -- the cases of `stuff`: no byte left, an `FF` (stuffed), any other byte
  fun_induction stuff bs with
  | case1 => rfl
  | case2 bs ih => rw [unstuff, if_pos ⟨rfl, rfl⟩, ih]
  | case3 b bs h ih => rw [unstuff_plain b _ h, ih]

theorem segmentBits_segmentBytes (bits : List Bool) :
    segmentBits (segmentBytes bits) = bits ++ List.replicate (padLen bits.length) true := by
  -- the padding completes the last byte: `n % 8 + (8 - n % 8) = 8`
  have hlen : (pad bits).length % 8 = 0 := by
    unfold pad padLen
    rw [List.length_append, List.length_replicate, Nat.add_mod_mod, ← Nat.mod_add_mod,
      Nat.add_sub_cancel' (Nat.le_of_lt (Nat.mod_lt _ (by decide)))]
  unfold segmentBits segmentBytes
  rw [unstuff_stuff, unpack_pack _ _ (Nat.mul_div_cancel' (Nat.dvd_of_mod_eq_zero hlen)).symm]
  rfl

theorem padLen_lt (n : Nat) : padLen n < 8 := Nat.mod_lt _ (by decide)

theorem splitRST_ff00 (bs acc : List Nat) : splitRST (0xFF :: 0x00 :: bs) acc = splitRST bs (0x00 :: 0xFF :: acc) := by
  simp [splitRST]

theorem splitRST_marker (c : Nat) (bs acc : List Nat) (h : 0xD0 ≤ c ∧ c ≤ 0xD7) :
    splitRST (0xFF :: c :: bs) acc = acc.reverse :: splitRST bs [] := by
  simp [splitRST, h]

/-- a byte other than `FF` joins the current segment, also as the last byte of the data -/
theorem splitRST_plain (b : Nat) (l acc : List Nat) (h : b ≠ 0xFF) : splitRST (b :: l) acc = splitRST l (b :: acc) := by
  cases l <;> simp [splitRST, h]

/-- scanning stuffed data, whatever follows it: it joins the current segment, because it holds no `FF` that is not
followed by `00` -/
theorem splitRST_stuff (bs acc tail : List Nat) :
    splitRST (stuff bs ++ tail) acc = splitRST tail ((stuff bs).reverse ++ acc) := by
  fun_induction stuff bs generalizing acc with
  | case1 => rfl
  | case2 bs ih =>
    rw [List.cons_append, List.cons_append, splitRST_ff00, ih]
    simp
  | case3 b bs h ih =>
    rw [List.cons_append, splitRST_plain b _ acc h, ih]
    simp

theorem splitRST_joinRST : ∀ (segs : List (List Bool)) (k : Nat), segs ≠ [] →
    splitRST (joinRST (segs.map segmentBytes) k) [] = segs.map segmentBytes
  | [s], k, _ => by
    rw [List.map_singleton, joinRST, segmentBytes, ← List.append_nil (stuff _), splitRST_stuff]
    simp [splitRST]
  | s :: s2 :: rest, k, _ => by
    have := splitRST_joinRST (s2 :: rest) (k + 1) (List.cons_ne_nil _ _)
    simp only [List.map_cons, joinRST, segmentBytes, List.append_assoc, List.cons_append, List.nil_append] at this ⊢
    rw [splitRST_stuff, splitRST_marker _ _ _ (by omega), this]
    simp

/-- **Restart framing, for any per-interval coder.**  `D` decodes a scan interval by interval with `dec`, dropping the
unread bits (the padding) of each interval: `hnil`, `hcons`.  If `dec (par b)` reads `val b` back from the bits
`enc b` whatever follows them, then `D` reads every `val b` back from the intervals packed, 1-padded, byte-stuffed
and joined by `FF D0..D7`. -/
theorem framed_roundtrip {ι α β : Type} (dec : ι → List Bool → Option (α × List Bool))
    (D : List ι → List (List Nat) → Option (List α)) (hnil : D [] [] = some [])
    (hcons : ∀ x xs seg segs y pad ys, dec x (segmentBits seg) = some (y, pad) → D xs segs = some ys →
      D (x :: xs) (seg :: segs) = some (y :: ys))
    (enc : β → Option (List Bool)) (par : β → ι) (val : β → α) (l : List β) (bitss : List (List Bool)) (hne : l ≠ [])
    (hdec : ∀ b ∈ l, ∀ bits rest, enc b = some bits → dec (par b) (bits ++ rest) = some (val b, rest))
    (henc : All2 (fun b bits => enc b = some bits) l bitss) :
    D (l.map par) (splitRST (joinRST (bitss.map segmentBytes) 0) []) = some (l.map val) := by
  rw [splitRST_joinRST bitss 0 (by intro e; subst e; cases henc; exact hne rfl)]
  clear hne
  induction henc with
  | nil => exact hnil
  | @cons b bits _ _ h1 _ ih =>
    have hd := hdec b (List.mem_cons_self ..) bits (List.replicate (padLen bits.length) true) h1
    rw [← segmentBits_segmentBytes] at hd
    exact hcons _ _ _ _ _ _ _ hd (ih fun b hb => hdec b (List.mem_cons_of_mem _ hb))

end LJT.Bits
