import LJT.Model.TJSize
/-! Buffer and plane sizes of the TurboJPEG API (C20).  For the arguments the API admits nothing wraps: `PAD` in
`unsigned long long` is rounding up to a multiple (`padULL_eq`, from `land_mask`), a plane dimension is its closed form
(`planeDim_closed`), and one turn of the loop of `tj3YUVBufSize` adds the bytes of one plane (`yuvBufSize_go_succ`). -/
namespace LJT.TJ
open LJT.Gen

/-- `x & ~(2^k - 1)` in an `n`-bit unsigned type clears the `k` low bits: the mask is `(2^(n-k) - 1) * 2^k`, so the
remainder by `2^k` is masked away and the quotient is kept. -/
theorem land_mask (x k n : Nat) (hk : k ≤ n) (hx : x < 2^n) :
    x &&& (2^n - 2^k) = x / 2^k * 2^k := by
  have hm : 2 ^ n - 2 ^ k = (2 ^ (n - k) - 1) * 2 ^ k := by
    rw [Nat.sub_mul, ← Nat.pow_add, Nat.sub_add_cancel hk, Nat.one_mul]
  have hq : x / 2 ^ k < 2 ^ (n - k) := Nat.div_lt_of_lt_mul (by rwa [← Nat.pow_add, Nat.add_sub_cancel' hk])
  rw [← Nat.div_add_mod (x &&& _) (2 ^ k), Nat.and_div_two_pow, Nat.and_mod_two_pow, hm, Nat.mul_mod_left, Nat.and_zero,
    Nat.add_zero, Nat.mul_div_cancel _ (Nat.two_pow_pos k), Nat.and_two_pow_sub_one_eq_mod, Nat.mod_eq_of_lt hq, Nat.mul_comm]

theorem padULL_eq (v k : Nat) (hk : k ≤ 31) (hv : v ≤ INT_MAX) :
    padULL v (2 ^ k) = ceilMul v (2 ^ k) := by
  unfold padULL ceilMul ULL
  have hp : 2 ^ k ≤ 2 ^ 31 := Nat.pow_le_pow_right (by omega) hk
  have hpos : 0 < 2 ^ k := Nat.two_pow_pos k
  have hlt : v + 2 ^ k - 1 < 2 ^ 64 := by
    unfold INT_MAX at hv
    omega
  rw [Nat.mod_eq_of_lt hlt]
  exact land_mask _ k 64 (by omega) hlt

theorem ceilMul_bounds (v p : Nat) (hp : 0 < p) : v ≤ ceilMul v p ∧ ceilMul v p < v + p := by
  unfold ceilMul
  have h1 := Nat.div_add_mod (v + p - 1) p
  have h2 := Nat.mod_lt (v + p - 1) hp
  have : (v + p - 1) / p * p = p * ((v + p - 1) / p) := Nat.mul_comm _ _
  omega

theorem ceilMul_dvd (v p : Nat) : p ∣ ceilMul v p := ⟨(v + p - 1) / p, Nat.mul_comm _ _⟩

theorem ceilMul_div (v p : Nat) (hp : 0 < p) : ceilMul v p / p = (v + p - 1) / p := by
  unfold ceilMul; exact Nat.mul_div_cancel _ hp

/-- the iMCU sizes of every subsampling level are 8, 16 or 32 (the regenerated tables `tjMCUWidth`, `tjMCUHeight`) -/
theorem mcu_pow (s : Int) (h : validSubsamp s = true) :
    (∃ k, k ≤ 2 ∧ mcuW s = 2 ^ (k + 3)) ∧ (∃ k, k ≤ 2 ∧ mcuH s = 2 ^ (k + 3)) := by
  simp only [validSubsamp, Bool.and_eq_true, decide_eq_true_eq] at h
  have hn : s.toNat < TJ_NUMSAMP := by omega
  exact (by decide : ∀ n < TJ_NUMSAMP, (∃ k, k ≤ 2 ∧ tjMCUWidth.getD n 0 = 2 ^ (k + 3)) ∧
    (∃ k, k ≤ 2 ∧ tjMCUHeight.getD n 0 = 2 ^ (k + 3))) s.toNat hn

theorem planeDim_closed (comp dim s : Int) (mcu : Nat) (hm : ∃ k, k ≤ 2 ∧ mcu = 2 ^ (k + 3))
    (hs : validSubsamp s = true) (hd : 1 ≤ dim) (hd2 : dim ≤ 2147483647)
    (hc : 0 ≤ comp) (hc2 : comp < (if s = (TJSAMP_GRAY : Int) then 1 else 3)) :
    planeDim comp dim s mcu =
      (let r := if comp = 0 then lumaDim dim.toNat mcu else chromaDim dim.toNat mcu
       if r > INT_MAX then 0 else r) := by
  obtain ⟨k, hk, rfl⟩ := hm
  have h8 : 2 ^ (k + 3) / 8 = 2 ^ k := by rw [Nat.pow_add]; exact Nat.mul_div_cancel _ (by decide)
  have hpos : 0 < 2 ^ k := Nat.two_pow_pos k
  have hle : 2 ^ k ≤ 2 ^ 2 := Nat.pow_le_pow_right (by omega) hk
  have hp : padULL dim.toNat (2 ^ k) = ceilMul dim.toNat (2 ^ k) :=
    padULL_eq dim.toNat k (Nat.le_trans hk (by decide)) (Int.toNat_le.2 hd2)
  have hlt := (ceilMul_bounds dim.toNat (2 ^ k) hpos).2
  -- the chroma size is the padded size divided by `2 ^ k`; `* 8` does not wrap
  have hchroma : ceilMul dim.toNat (2 ^ k) * 8 % ULL / 2 ^ (k + 3) = (dim.toNat + 2 ^ k - 1) / 2 ^ k := by
    rw [Nat.mod_eq_of_lt (by unfold ULL; omega), Nat.pow_add, Nat.mul_comm _ 8, Nat.mul_comm _ (2 ^ 3),
      Nat.mul_div_mul_left _ _ (by decide : 0 < 8)]
    exact ceilMul_div _ _ hpos
  unfold planeDim lumaDim chromaDim
  simp only [Int.not_lt.2 hd, hs, Int.not_lt.2 hc, Int.not_le.2 hc2, decide_false, Bool.not_true, Bool.or_self,
    Bool.false_eq_true, if_false, h8, hp, hchroma]

theorem isPow2_two_pow (k : Nat) : isPow2 ((2 ^ k : Nat) : Int) = true := by
  rw [isPow2, Int.toNat_natCast, Nat.and_two_pow_sub_one_eq_mod, Nat.mod_self]
  rfl

/-- stride of plane `i` in a unified buffer with row alignment `al` -/
def planeStride (i : Nat) (w al s : Int) : Nat := ceilMul (yuvPlaneWidth i w s) al.toNat

/-- what `tj3YUVBufSize` adds for plane `i` -/
def planeBytes (i : Nat) (w al h s : Int) : Nat := planeStride i w al s * yuvPlaneHeight i h s

/-- a plane is usable: non-zero dimensions and a stride that fits `int` -/
def planeOK (i : Nat) (w al h s : Int) : Prop :=
  yuvPlaneWidth i w s ≠ 0 ∧ yuvPlaneHeight i h s ≠ 0 ∧ planeStride i w al s ≤ INT_MAX

theorem planeDim_le (comp dim s : Int) (mcu : Nat) : planeDim comp dim s mcu ≤ INT_MAX := by
  fun_cases planeDim comp dim s mcu with
  | case1 | case2 | case3 => exact Nat.zero_le _
  | case4 _ _ _ _ _ hr => exact Nat.le_of_not_lt hr

theorem yuvPlaneWidth_le (comp w s : Int) : yuvPlaneWidth comp w s ≤ INT_MAX := planeDim_le _ _ _ _
theorem yuvPlaneHeight_le (comp h s : Int) : yuvPlaneHeight comp h s ≤ INT_MAX := planeDim_le _ _ _ _

/-- one turn of the loop.  `k ≤ 30`: the alignment `2 ^ k` is an `int`.  `hacc`: each of the `i ≤ 2` planes before this
one has at most `INT_MAX * INT_MAX` bytes; three such planes fit `unsigned long long`. -/
theorem yuvBufSize_go_succ (w al h s : Int) (k : Nat) (hk : k ≤ 30) (hal : al = ((2 ^ k : Nat) : Int))
    (n i acc : Nat) (hok : planeOK i w al h s) (hi : i ≤ 2) (hacc : acc ≤ i * (INT_MAX * INT_MAX)) :
    yuvBufSize.go w al h s (n + 1) i acc = yuvBufSize.go w al h s n (i + 1) (acc + planeBytes i w al h s) ∧
      acc + planeBytes i w al h s ≤ (i + 1) * (INT_MAX * INT_MAX) := by
  obtain ⟨h1, h2, h3⟩ := hok
  have hb : planeBytes i w al h s ≤ INT_MAX * INT_MAX := Nat.mul_le_mul h3 (yuvPlaneHeight_le i h s)
  refine ⟨?_, by rw [Nat.succ_mul]; exact Nat.add_le_add hacc hb⟩
  have hpad : padULL (yuvPlaneWidth i w s) al.toNat = planeStride i w al s := by
    unfold planeStride
    rw [hal]; simp only [Int.toNat_natCast]
    exact padULL_eq _ k (by omega) (yuvPlaneWidth_le i w s)
  conv => lhs; unfold yuvBufSize.go
  simp only [h1, h2, Bool.or_self, decide_false, Bool.false_eq_true, if_false, hpad, Nat.not_lt.2 h3]
  have : acc + planeBytes i w al h s < ULL := by
    unfold ULL INT_MAX at *
    omega
  exact congrArg _ (Nat.mod_eq_of_lt this)

theorem yuvBufSize_eq_go (w al h s : Int) (k : Nat) (hal : al = ((2 ^ k : Nat) : Int)) (hs : validSubsamp s = true) :
    yuvBufSize w al h s = yuvBufSize.go w al h s (if s = (TJSAMP_GRAY : Int) then 1 else 3) 0 0 := by
  subst hal
  have hpos : ¬ (((2 ^ k : Nat) : Int) < 1) := by
    have := Nat.two_pow_pos k; omega
  unfold yuvBufSize
  simp only [hpos, isPow2_two_pow k, hs, decide_false, Bool.not_true, Bool.or_self, Bool.false_eq_true, if_false]

theorem planeSize_le_bytes (i : Nat) (w al h s : Int) (hal : 0 < al.toNat)
    (hph : yuvPlaneHeight i h s ≠ 0) :
    planeStride i w al s * (yuvPlaneHeight i h s - 1) + yuvPlaneWidth i w s ≤ planeBytes i w al h s := by
  unfold planeBytes
  have h1 : yuvPlaneWidth i w s ≤ planeStride i w al s := (ceilMul_bounds _ _ hal).1
  obtain ⟨n, hn⟩ := Nat.exists_eq_add_one_of_ne_zero hph
  rw [hn, Nat.add_sub_cancel, Nat.mul_succ]
  exact Nat.add_le_add_left h1 _

/-- the overflow guard `b > M / c / a` of the size functions does not fire when the product fits -/
theorem le_div_div (a b c M : Nat) (ha : 0 < a) (hc : 0 < c) (h : a * b * c ≤ M) : b ≤ M / c / a := by
  rw [Nat.div_div_eq_div_mul, Nat.le_div_iff_mul_le (Nat.mul_pos hc ha)]
  have : b * (c * a) = a * b * c := by ac_rfl
  omega

end LJT.TJ
