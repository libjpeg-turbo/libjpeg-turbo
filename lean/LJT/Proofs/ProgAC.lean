import LJT.Model.ProgAC
import LJT.Proofs.SeqHuff
/-! Round trip of the *first* pass of progressive AC coding (C03; T.81 G.1.2.2, src/jcphuff.c
`encode_mcu_AC_first` with `emit_eobrun`): the event stream of `ProgAC.firstEv` is inverted by
`ProgAC.firstDecBlocks`, the procedure the independent T.81 reader runs, for every sequence of blocks,
any end-of-band run lengths and any code whose decoder inverts the symbols used (`Good`, `GoodEvs`).
What the refinement pass (Proofs/ProgRef.lean) shares is here too: `evBits_append`, `eob_read`. -/
namespace LJT.ProgAC
open LJT.Huff LJT.LL

/-- the decoder `dec` inverts the code of symbol `s` -/
def Good (code : Nat → List Bool) (dec : Dec) (s : Nat) : Prop :=
  ∀ rest, dec (code s ++ rest) = some (s, false, rest)

/-- every symbol of an event list is decodable -/
def GoodEvs (code : Nat → List Bool) (dec : Dec) (evs : List Ev) : Prop :=
  ∀ s, Ev.sym s ∈ evs → Good code dec s

theorem GoodEvs.append_left {code dec} {a b : List Ev} (h : GoodEvs code dec (a ++ b)) : GoodEvs code dec a :=
  fun s hs => h s (List.mem_append_left _ hs)

theorem GoodEvs.append_right {code dec} {a b : List Ev} (h : GoodEvs code dec (a ++ b)) : GoodEvs code dec b :=
  fun s hs => h s (List.mem_append_right _ hs)

theorem GoodEvs.head {code dec} {s : Nat} {t : List Ev} (h : GoodEvs code dec (.sym s :: t)) : Good code dec s :=
  h s (by simp)

theorem GoodEvs.tail {code dec} {e : Ev} {t : List Ev} (h : GoodEvs code dec (e :: t)) : GoodEvs code dec t :=
  fun s hs => h s (List.mem_cons_of_mem _ hs)

theorem evBits_append (code : Nat → List Bool) (a b : List Ev) :
    evBits code (a ++ b) = evBits code a ++ evBits code b := by
  induction a with
  | nil => rfl
  | cons e t ih =>
    cases e <;> simp [evBits, ih]

theorem getBits_natBits (v n : Nat) (h : v < 2 ^ n) (rest : List Bool) :
    getBits n (natBits v n ++ rest) = some (v, rest) := by
  obtain ⟨r1, r2, r3⟩ := natBits_read h rest
  rw [getBits, if_neg r1, r2, r3]

/-- well-formed input: every band has `L` coefficients of magnitude below 2^15 -/
def WF (L : Nat) (t : List (List Int)) : Prop := ∀ b ∈ t, b.length = L ∧ ∀ v ∈ b, v.natAbs < 32768

theorem firstCoefEv_all_zero : ∀ (b : List Int) (r : Nat), b.all (· == 0) = true → firstCoefEv r b = ([], r + b.length) := by
  intro b
  induction b with
  | nil => intro r _; rfl
  | cons v t ih =>
    intro r h
    simp only [List.all_cons, Bool.and_eq_true, beq_iff_eq] at h
    simp only [firstCoefEv, h.1, if_true, List.length_cons]
    rw [ih (r + 1) h.2]
    congr 1
    omega

theorem all_zero_eq (b : List Int) (h : b.all (· == 0) = true) : b = List.replicate b.length 0 :=
  List.eq_replicate_iff.2 ⟨rfl, fun x hx => by simpa using List.all_eq_true.1 h x hx⟩

theorem firstEv_cons_zero (e : Nat) (b : List Int) (t : List (List Int)) (hz : b.all (· == 0) = true) :
    firstEv e (b :: t) = if e + 1 = 0x7FFF then eobEv (e + 1) ++ firstEv 0 t else firstEv (e + 1) t := by
  simp only [firstEv, hz, if_true]

/-- a band with a coefficient closes the pending run.  With nothing pending the same equation holds
of a block of zeros: it is a band all of whose zeros are trailing, and these start the run. -/
theorem firstEv_cons_coef (e : Nat) (b : List Int) (t : List (List Int)) (h : ¬ (b.all (· == 0) = true ∧ e ≠ 0))
    (hne : b ≠ []) :
    firstEv e (b :: t) = eobEv e ++ ((firstCoefEv 0 b).1 ++ firstEv (min 1 (firstCoefEv 0 b).2) t) := by
  by_cases hz : b.all (· == 0) = true
  · obtain rfl : e = 0 := Decidable.byContradiction fun he => h ⟨hz, he⟩
    have hl : 1 ≤ 0 + b.length := by
      rw [Nat.zero_add]
      exact List.length_pos_iff.2 hne
    rw [firstEv_cons_zero 0 b t hz, firstCoefEv_all_zero b 0 hz, if_neg (by decide), Nat.min_eq_left hl]
    rfl
  · simp only [firstEv, hz, Bool.false_eq_true, if_false]
    by_cases h0 : (firstCoefEv 0 b).2 = 0
    · rw [if_pos h0, h0]
      rfl
    · rw [if_neg h0, Nat.min_eq_left (Nat.pos_of_ne_zero h0)]

/-! The EOBn symbol of a run of `e` bands: size 0, run field `log2 e`, then the low `log2 e` bits of `e`. -/

theorem eobEv_zero : eobEv 0 = [] := by simp [eobEv]

theorem log2_split (v : Nat) (h : v ≠ 0) : 2 ^ Nat.log2 v + v % 2 ^ Nat.log2 v = v := by
  have hlo := Nat.log2_self_le h
  have hhi : v < 2 ^ (Nat.log2 v + 1) := Nat.lt_log2_self
  rw [Nat.pow_succ] at hhi
  rw [Nat.mod_eq_sub_mod hlo, Nat.mod_eq_of_lt (by omega)]
  omega

theorem min_one_eq_zero (n : Nat) : n = 0 ↔ min 1 n = 0 := by omega

section
variable {code : Nat → List Bool} {dec : Dec}

/-- what the decoder meets where a pending run `e > 0` was written out: a symbol of size 0 whose run
field is not 15 and whose extra bits give `e` back -/
theorem eob_read (e : Nat) (h0 : e ≠ 0) (h1 : e ≤ 0x7FFF) (hg : GoodEvs code dec (eobEv e)) (rest : List Bool) :
    ∃ s bits', dec (evBits code (eobEv e) ++ rest) = some (s, false, bits') ∧ s % 16 = 0 ∧ s / 16 < 15 ∧
      readEob (s / 16) bits' = some (e, rest) := by
  have hn : Nat.log2 e < 15 := (Nat.log2_lt h0).2 (by omega)
  have hs := log2_split e h0
  unfold eobEv at hg ⊢
  rw [if_neg h0] at hg ⊢
  by_cases hk : Nat.log2 e = 0
  · rw [if_pos hk] at hg ⊢
    rw [hk, Nat.pow_zero, Nat.mod_one] at hs
    refine ⟨0, rest, ?_, rfl, by omega, ?_⟩
    · simp only [evBits, List.append_nil]
      exact hg.head rest
    · simp only [readEob, Nat.zero_div, if_true]
      rw [← hs]
  · rw [if_neg hk] at hg ⊢
    refine ⟨Nat.log2 e * 16, natBits (e % 2 ^ Nat.log2 e) (Nat.log2 e) ++ rest, ?_, Nat.mul_mod_left _ _, ?_, ?_⟩
    · simp only [evBits, List.append_nil, List.append_assoc]
      exact hg.head _
    · rw [Nat.mul_div_cancel _ (by omega : 0 < 16)]
      exact hn
    · rw [Nat.mul_div_cancel _ (by omega : 0 < 16)]
      unfold readEob
      rw [if_neg hk, getBits_natBits _ _ (Nat.mod_lt _ (Nat.two_pow_pos _))]
      simp only [Option.map_some]
      rw [hs]

variable (dec) in
/-- `firstDec` with `rem` coefficients left returns `r`, whatever fuel beyond `rem` it is given -/
def Reads (rem : Nat) (bits : List Bool) (r : List Int × Nat × List Bool) : Prop :=
  ∀ f, rem < f → firstDec dec f rem bits = .ok r

theorem firstDec_rem_zero (f : Nat) (bits : List Bool) : firstDec dec f 0 bits = .ok ([], 0, bits) := by
  cases f <;> simp [firstDec]

theorem Reads.coef {run m : Nat} {v : Int} {X : List Bool} {l : List Int} {e : Nat} {b : List Bool}
    (hcont : Reads dec m X (l, e, b)) (hv0 : v ≠ 0) (hv : v.natAbs < 32768)
    (hg : Good code dec (run * 16 + (category v).1)) :
    Reads dec (run + 1 + m) (code (run * 16 + (category v).1) ++ (natBits (category v).2.1 (category v).2.2 ++ X))
      (List.replicate run 0 ++ v :: l, e, b) := by
  obtain ⟨h0, hn16, hnex, hex, hext⟩ := category_exact v hv0 hv
  have hlt : m < run + 1 + m := Nat.lt_add_of_pos_left (Nat.succ_pos run)
  intro f hf
  obtain ⟨g, rfl⟩ := Nat.exists_eq_add_one_of_ne_zero (Nat.ne_zero_of_lt hf)
  rw [firstDec, if_neg (Nat.ne_zero_of_lt hlt), hg]
  simp only [SeqHuff.sym_run run _ hn16, SeqHuff.sym_size run _ hn16]
  rw [if_pos h0, if_neg (Nat.not_lt.2 (Nat.le_add_right _ _)), hnex, getBits_natBits _ _ hex]
  simp only
  rw [Nat.sub_sub, Nat.add_sub_cancel_left, hcont g (Nat.lt_of_lt_of_le hlt (Nat.le_of_lt_succ hf)), hext]

/-- the EOBn symbol ends the band and announces `e - 1` further all-zero bands; with nothing pending
(`e = 0`) nothing is written and the band is complete -/
theorem first_eob (e rem : Nat) (rest : List Bool) (hre : rem = 0 ↔ e = 0) (h1 : e ≤ 0x7FFF) (hg : GoodEvs code dec (eobEv e)) :
    Reads dec rem (evBits code (eobEv e) ++ rest) (List.replicate rem 0, e - 1, rest) := by
  intro f hf
  by_cases he0 : e = 0
  · rw [he0, hre.2 he0, eobEv_zero]
    exact firstDec_rem_zero f rest
  · have hr : rem ≠ 0 := fun h => he0 (hre.1 h)
    obtain ⟨g, rfl⟩ := Nat.exists_eq_add_one_of_ne_zero (Nat.ne_zero_of_lt hf)
    obtain ⟨s, bits', hd, hm, h15, hrd⟩ := eob_read e he0 h1 hg rest
    rw [firstDec, if_neg hr, hd]
    simp only [hm, ne_eq, not_true_eq_false, if_false]
    rw [if_neg (Nat.ne_of_lt h15), hrd]

theorem Reads.zrl {m : Nat} {X : List Bool} {l : List Int} {e : Nat} {b : List Bool} (h : Reads dec m X (l, e, b)) :
    ∀ n, GoodEvs code dec (List.replicate n (.sym 0xF0)) →
      Reads dec (m + 16 * n) (evBits code (List.replicate n (.sym 0xF0)) ++ X) (List.replicate (16 * n) 0 ++ l, e, b) := by
  intro n
  induction n with
  | zero => exact fun _ => h
  | succ n ih =>
    intro hg f hf
    obtain ⟨g, rfl⟩ := Nat.exists_eq_add_one_of_ne_zero (Nat.ne_zero_of_lt hf)
    rw [Nat.mul_succ, ← Nat.add_assoc] at hf ⊢
    rw [firstDec, if_neg (Nat.succ_ne_zero _), List.replicate_succ, evBits, List.append_assoc, hg.head]
    simp only [Nat.reduceMod, Nat.reduceDiv, ne_eq, not_true_eq_false, if_false, if_true]
    rw [if_neg (Nat.not_lt.2 (Nat.le_add_left _ _)), Nat.add_sub_cancel,
      ih hg.tail g (Nat.lt_of_lt_of_le (Nat.lt_add_of_pos_right (by decide)) (Nat.le_of_lt_succ hf)),
      Nat.add_comm (16 * n), ← List.replicate_append_replicate, List.append_assoc]

/-- the symbols of a band are decoded exactly, provided what follows makes the decoder fill the
trailing zeros of the band -/
theorem first_coefs (vs : List Int) (r : Nat) (X : List Bool) (e : Nat) (b : List Bool) (hv : ∀ v ∈ vs, v.natAbs < 32768) :
    GoodEvs code dec (firstCoefEv r vs).1 →
    Reads dec (firstCoefEv r vs).2 X (List.replicate (firstCoefEv r vs).2 0, e, b) →
    Reads dec (r + vs.length) (evBits code (firstCoefEv r vs).1 ++ X) (List.replicate r 0 ++ vs, e, b) := by
  fun_induction firstCoefEv r vs with
  | case1 r =>
    intro _ h
    simpa [evBits] using h
  -- a zero: one more pending
  | case2 r t ih =>
    intro hg h
    have := ih (fun x hx => hv x (List.mem_cons_of_mem _ hx)) hg h
    rwa [rep_snoc, Nat.add_assoc, Nat.add_comm 1] at this
  -- a coefficient behind `r` zeros: `r / 16` ZRLs, then its symbol with run `r % 16` and the extra bits
  | case3 r v t hv0 ih =>
    intro hg h
    have hg2 := hg.append_right
    have := ((ih (fun x hx => hv x (List.mem_cons_of_mem _ hx)) hg2.tail.tail h).coef hv0 (hv v List.mem_cons_self)
      hg2.head).zrl (r / 16) hg.append_left
    rw [← List.append_assoc (List.replicate _ _), List.replicate_append_replicate, Nat.div_add_mod, List.replicate_zero,
      List.nil_append, Nat.zero_add, SeqHuff.run_split] at this
    simpa [evBits_append, evBits] using this

/-! Blocks: the trailing zeros of a band start an end-of-band run, which blocks of zeros join until it is written out. -/

theorem firstDecBlocks_run (L : Nat) : ∀ (k n : Nat) (bits : List Bool) (bs : List (List Int)) (e' : Nat) (b' : List Bool),
    firstDecBlocks dec L n 0 bits = .ok (bs, e', b') →
    firstDecBlocks dec L (k + n) k bits = .ok (List.replicate k (List.replicate L 0) ++ bs, e', b') := by
  intro k
  induction k with
  | zero => intro n bits bs e' b' h; simpa using h
  | succ k ih =>
    intro n bits bs e' b' h
    rw [Nat.add_right_comm, firstDecBlocks, firstDecBlock, if_pos (Nat.succ_pos _)]
    simp only
    rw [Nat.add_sub_cancel, ih n bits bs e' b' h]
    rfl

/-- **closing a run**: the pending run is written out; the decoder fills its band, passes the blocks
the run covers, and goes on with `n` blocks from a block boundary -/
theorem first_close (L e rem n : Nat) (evs : List Ev) (bs : List (List Int)) (rest : List Bool) (hre : rem = 0 ↔ e = 0)
    (h1 : e ≤ 0x7FFF) (hg : GoodEvs code dec (eobEv e ++ evs))
    (hn : firstDecBlocks dec L n 0 (evBits code evs ++ rest) = .ok (bs, 0, rest)) :
    ∃ e' bits', Reads dec rem (evBits code (eobEv e ++ evs) ++ rest) (List.replicate rem 0, e', bits') ∧
      firstDecBlocks dec L ((e - 1) + n) e' bits' = .ok (List.replicate (e - 1) (List.replicate L 0) ++ bs, 0, rest) := by
  refine ⟨e - 1, evBits code evs ++ rest, ?_, ?_⟩
  · rw [evBits_append, List.append_assoc]
    exact first_eob e rem _ hre h1 hg.append_left
  · exact firstDecBlocks_run L (e - 1) n _ bs 0 rest hn

variable (code dec) in
/-- **a first-pass scan decoded from any encoder state**: the encoder holds `e` pending end-of-band
blocks, the current one included, and the decoder is inside that band with `rem` coefficients left,
all zero (`e = 0`, `rem = 0`: both at a block boundary).  The decoder fills the band, and the block
procedure run over the pending blocks and `t` returns them and ends with no pending run. -/
def FirstOK (L : Nat) (t : List (List Int)) : Prop :=
  ∀ (e rem : Nat) (rest : List Bool), (rem = 0 ↔ e = 0) → e < 0x7FFF → GoodEvs code dec (firstEv e t) →
    ∃ e' bits', Reads dec rem (evBits code (firstEv e t) ++ rest) (List.replicate rem 0, e', bits') ∧
      firstDecBlocks dec L ((e - 1) + t.length) e' bits' = .ok (List.replicate (e - 1) (List.replicate L 0) ++ t, 0, rest)

theorem FirstOK.scan {L : Nat} {t : List (List Int)} (h : FirstOK code dec L t)
    (rest : List Bool) (hg : GoodEvs code dec (firstEv 0 t)) :
    firstDecBlocks dec L t.length 0 (evBits code (firstEv 0 t) ++ rest) = .ok (t, 0, rest) := by
  obtain ⟨e', bits', hd, hrest⟩ := h 0 0 rest (by simp) (by omega) hg
  have := hd 1 (by omega)
  rw [firstDec_rem_zero] at this
  cases this
  simpa using hrest

/-- every first-pass scan is decoded, from any encoder state: by induction over the blocks, a block of
zeros joining the pending run and any other block closing it -/
theorem first_blocks (L : Nat) (hL : 1 ≤ L) : ∀ t, WF L t → FirstOK code dec L t := by
  intro t
  induction t with
  | nil =>
    intro _ e rem rest hre he hg
    have := first_close L e rem 0 [] [] rest hre (Nat.le_of_lt he) (by rwa [List.append_nil]) rfl
    rw [List.append_nil] at this
    exact this
  | cons b t ih =>
    intro hwf e rem rest hre he hg
    have iht := ih (fun x hx => hwf x (List.mem_cons_of_mem _ hx))
    obtain ⟨hb, hv⟩ := hwf b List.mem_cons_self
    by_cases hz : b.all (· == 0) = true ∧ e ≠ 0
    · -- a block of zeros joins the run
      obtain ⟨q, rfl⟩ := Nat.exists_eq_add_one_of_ne_zero hz.2
      have hre' : rem = 0 ↔ q + 1 + 1 = 0 := iff_of_false (mt hre.1 (Nat.succ_ne_zero q)) (Nat.succ_ne_zero _)
      have hlen : q + 1 - 1 + (b :: t).length = q + 1 + t.length := by
        rw [List.length_cons, Nat.add_sub_cancel, ← Nat.add_assoc, Nat.add_right_comm]
      rw [firstEv_cons_zero _ b t hz.1] at hg ⊢
      rw [hlen, all_zero_eq b hz.1, hb, ← rep_snoc]
      by_cases hfull : q + 1 + 1 = 0x7FFF
      · -- which is flushed
        rw [if_pos hfull] at hg ⊢
        exact first_close L (q + 1 + 1) rem t.length _ t rest hre' (Nat.le_of_eq hfull) hg (iht.scan rest hg.append_right)
      · rw [if_neg hfull] at hg ⊢
        exact iht (q + 1 + 1) rem rest hre' (Nat.lt_of_le_of_ne he hfull) hg
    · -- the pending run is written out, then come the symbols of the band; its trailing zeros start a run
      have hne : b ≠ [] := List.ne_nil_of_length_pos (hb ▸ hL)
      rw [firstEv_cons_coef e b t hz hne] at hg ⊢
      have hg2 := hg.append_right
      obtain ⟨e', bits', hd, hrest⟩ := iht (min 1 (firstCoefEv 0 b).2) (firstCoefEv 0 b).2 rest (min_one_eq_zero _)
        (Nat.lt_of_le_of_lt (Nat.min_le_left 1 _) (by decide)) hg2.append_right
      refine first_close L e rem (t.length + 1) _ (b :: t) rest hre (Nat.le_of_lt he) hg ?_
      have hfuel : 0 + b.length < L + 1 := by
        rw [Nat.zero_add, hb]
        exact Nat.lt_succ_self L
      have := first_coefs b 0 _ e' bits' hv hg2.append_left hd (L + 1) hfuel
      rw [Nat.zero_add, hb, List.replicate_zero, List.nil_append] at this
      rw [Nat.sub_eq_zero_of_le (Nat.min_le_left 1 _), Nat.zero_add, List.replicate_zero, List.nil_append] at hrest
      rw [firstDecBlocks, firstDecBlock, if_neg (Nat.lt_irrefl 0), evBits_append, List.append_assoc, this]
      simp only
      rw [hrest]

end

end LJT.ProgAC
