import LJT.Proofs.HuffBits
import Mathlib.Data.List.Nodup
import Batteries.Data.List.Perm
/-! `huffval[]` as returned by `jpeg_gen_optimal_table`: the loop that fills it is a counting sort by
`codesize[]` that skips the last slot, so it lists every real symbol once, in order of code length; and the
encoder-side derived table of the result gives each of them a code of 1 to 16 bits. -/
namespace LJT.Huff

/-- number of slots before `t` whose code length is `c` -/
def cnt (cs : List Nat) (t c : Nat) : Nat := (cs.take t).count c
/-- number of slots with a code length below `c` -/
def Bc (cs : List Nat) (c : Nat) : Nat := csum (fun l => cs.count l) c
/-- where slot `k` goes -/
def pos (cs : List Nat) (k : Nat) : Nat := Bc cs (cs.getD k 0) + cnt cs k (cs.getD k 0)

section
variable (cs : List Nat)

theorem cnt_succ (t c : Nat) (ht : t < cs.length) :
    cnt cs (t + 1) c = cnt cs t c + (if c = cs.getD t 0 then 1 else 0) := by
  unfold cnt
  rw [List.take_add_one, List.count_append]
  simp only [List.getD_eq_getElem?_getD, List.getElem?_eq_getElem ht, Option.toList_some, Option.getD_some,
    List.count_cons, List.count_nil, beq_iff_eq, Nat.zero_add, @eq_comm _ c]

theorem cnt_mono (c : Nat) {t t' : Nat} (h : t ≤ t') : cnt cs t c ≤ cnt cs t' c :=
  (List.take_sublist_take_left h).count_le c

theorem cnt_lt {k k' : Nat} (h : k < k') (hk : k < cs.length) :
    cnt cs k (cs.getD k 0) + 1 ≤ cnt cs k' (cs.getD k 0) := by
  have h1 := cnt_succ cs k (cs.getD k 0) hk
  have h2 := cnt_mono cs (cs.getD k 0) (show k + 1 ≤ k' by omega)
  simp only [if_true] at h1
  omega

theorem Bc_succ (c : Nat) : Bc cs (c + 1) = Bc cs c + cs.count c := rfl

theorem Bc_mono {c c' : Nat} (h : c ≤ c') : Bc cs c ≤ Bc cs c' := by
  unfold Bc
  rw [csum_eq_lsum, csum_eq_lsum]
  exact lsum_mono _ _ c c' h

theorem Bc_total (c : Nat) (h : ∀ d ∈ cs, d < c) : Bc cs c = cs.length := by
  unfold Bc
  rw [csum_eq_lsum, lsum_count _ c cs h, LL.sum_map_one]

theorem pos_block {k : Nat} (hk : k < cs.length) :
    Bc cs (cs.getD k 0) ≤ pos cs k ∧ pos cs k < Bc cs (cs.getD k 0 + 1) := by
  have := cnt_lt cs hk hk
  simp only [cnt, List.take_length] at this
  unfold pos cnt
  rw [Bc_succ]
  omega

theorem pos_lt_of_cs_lt {k k' : Nat} (hk : k < cs.length) (hk' : k' < cs.length)
    (h : cs.getD k 0 < cs.getD k' 0) : pos cs k < pos cs k' := by
  have h1 := (pos_block cs hk).2
  have h2 := (pos_block cs hk').1
  have h3 := Bc_mono cs (show cs.getD k 0 + 1 ≤ cs.getD k' 0 by omega)
  omega

/-- the sort is stable: of two slots with the same code length the earlier one comes first -/
theorem pos_lt_of_lt {k k' : Nat} (hk : k < cs.length) (h : k < k') (hc : cs.getD k 0 = cs.getD k' 0) :
    pos cs k < pos cs k' := by
  have := cnt_lt cs h hk
  unfold pos
  rw [← hc]
  omega

theorem pos_inj {k k' : Nat} (hk : k < cs.length) (hk' : k' < cs.length) (hne : k ≠ k') :
    pos cs k ≠ pos cs k' := by
  rcases Nat.lt_trichotomy (cs.getD k 0) (cs.getD k' 0) with h | h | h
  · exact Nat.ne_of_lt (pos_lt_of_cs_lt cs hk hk' h)
  · rcases Nat.lt_or_gt_of_ne hne with h2 | h2
    · exact Nat.ne_of_lt (pos_lt_of_lt cs hk h2 h)
    · exact Nat.ne_of_gt (pos_lt_of_lt cs hk' h2 h.symm)
  · exact Nat.ne_of_gt (pos_lt_of_cs_lt cs hk' hk h)

/-- with the last slot on the deepest level it comes after every other slot, which leaves them the positions
below `m` -/
theorem pos_lt (m : Nat) (hlen : cs.length = m + 1)
    (hmax : ∀ c ∈ cs, c ≤ cs.getD m 0) {k : Nat} (hk : k < m) : pos cs k < m := by
  have hk' : k < cs.length := by omega
  have hm' : m < cs.length := by omega
  have h1 : pos cs k < pos cs m := by
    rcases Nat.lt_or_eq_of_le (hmax _ (LL.getD_mem hk' 0)) with h | h
    · exact pos_lt_of_cs_lt cs hk' hm' h
    · exact pos_lt_of_lt cs hk' hk h
  have h2 := (pos_block cs hm').2
  rw [Bc_total cs _ (fun d hd => Nat.lt_succ_of_le (hmax d hd)), hlen] at h2
  omega

end

theorem sum_map_range (b : Nat → Nat) : ∀ n, ((List.range n).map b).sum = csum b n
  | 0 => rfl
  | n + 1 => by
    rw [List.range_succ, List.map_append, List.sum_append, sum_map_range b n]
    simp [csum]

/-- `bit_pos[]` leaves out level 0, which is empty -/
theorem bitPos_eq_Bc (cs : List Nat) (h : ∀ c ∈ cs, c ≤ 32) (h0 : cs.count 0 = 0) (c : Nat) :
    (bitPos (b0Of cs)).f c = Bc cs c := by
  show (((List.range c).drop 1).map (b0Of cs).f).sum = csum (fun l => cs.count l) c
  rw [b0Of_f cs h, ← sum_map_range]
  cases c with
  | zero => rfl
  | succ d =>
    rw [List.range_succ_eq_map, List.map_cons, List.sum_cons, h0, Nat.zero_add]
    rfl

/-- one iteration of the loop that fills `huffval[]` -/
def fstep (cs nz : List Nat) (st : Array Nat × Bits) (k : Nat) : Array Nat × Bits :=
  (st.1.setIfInBounds (st.2.f (cs.getD k 0)) (nz.getD k 0 % 256), st.2.upd (cs.getD k 0) (st.2.f (cs.getD k 0) + 1))

theorem placeVals_eq (cs nz : List Nat) (m : Nat) (bp : Bits) :
    placeVals cs nz m bp = ((List.range m).foldl (fstep cs nz) (Array.replicate 256 0, bp)).1 := rfl

/-- the loop that fills `huffval[]` after `t` iterations: the running `bit_pos[]` counters, and the symbols placed so far -/
structure FI (cs nz : List Nat) (t : Nat) (st : Array Nat × Bits) : Prop where
  size : st.1.size = 256
  bp : ∀ c, st.2.f c = Bc cs c + cnt cs t c
  val : ∀ k, k < t → st.1.getD (pos cs k) 0 = nz.getD k 0 % 256

theorem fold_FI (cs nz : List Nat) (m : Nat) (hlen : cs.length = m + 1) (hm : m ≤ 256)
    (hmax : ∀ c ∈ cs, c ≤ cs.getD m 0) (bp : Bits) (hbp : ∀ c, bp.f c = Bc cs c) :
    FI cs nz m ((List.range m).foldl (fstep cs nz) (Array.replicate 256 0, bp)) := by
  refine LL.foldl_range_induct (FI cs nz) _ _ m ⟨by simp, fun c => by simp [hbp, cnt], fun k hk => by omega⟩
    fun t st htm h => ?_
  have ht' : t < cs.length := by rw [hlen]; exact Nat.lt_succ_of_lt htm
  have hidx : st.2.f (cs.getD t 0) = pos cs t := by rw [h.bp]; rfl
  have hpos : pos cs t < 256 := Nat.lt_of_lt_of_le (pos_lt cs m hlen hmax htm) hm
  simp only [fstep]
  refine ⟨by simp [h.size], ?_, ?_⟩
  · intro c
    rw [Bits.upd_f, cnt_succ cs t c ht']
    by_cases e : c = cs.getD t 0
    · rw [if_pos e, if_pos e, e, h.bp]
      exact Nat.add_assoc _ _ _
    · rw [if_neg e, if_neg e, h.bp]
      rfl
  · intro k hk
    rw [hidx, getD_set (by rw [h.size]; exact hpos)]
    by_cases e : k = t
    · subst e; simp
    · have hkt : k < t := Nat.lt_of_le_of_ne (Nat.le_of_lt_succ hk) e
      rw [if_neg (pos_inj cs ht' (Nat.lt_trans hkt ht') (Ne.symm e))]
      exact h.val k hkt

theorem perm_of_placed {l : List Nat} {m : Nat} {f g : Nat → Nat} (hl : l.length = m)
    (hf : ∀ k, k < m → f k < m ∧ l.getD (f k) 0 = g k) (hinj : ∀ k k', k < m → k' < m → k ≠ k' → f k ≠ f k') :
    l.Perm ((List.range m).map g) := by
  have hnd : ((List.range m).map f).Nodup :=
    List.Nodup.map_on (fun x hx y hy e => Classical.byContradiction fun hne =>
      hinj x y (List.mem_range.1 hx) (List.mem_range.1 hy) hne e) List.nodup_range
  have hsub : (List.range m).map f ⊆ List.range m :=
    List.forall_mem_map.2 fun k hk => List.mem_range.2 (hf k (List.mem_range.1 hk)).1
  have hperm : ((List.range m).map f).Perm (List.range m) :=
    (List.subperm_of_subset hnd hsub).perm_of_length_le (by simp)
  have e : ((List.range m).map f).map (l.getD · 0) = (List.range m).map g := by
    rw [List.map_map]
    exact List.map_congr_left fun k hk => (hf k (List.mem_range.1 hk)).2
  rw [← e]
  conv => lhs; rw [← LL.map_getD_range l 0, hl]
  exact (hperm.map _).symm

/-- **`huffval[]`.**  With `codesize[]` values `cs` for the real symbols `nz` plus the pseudo-symbol in the last
slot, the pseudo-symbol on the deepest level and no length 0, symbol `k` stands at position `pos cs k` of the array
returned (distinct positions by `pos_inj`), so the array lists the symbols `nz`, each once. -/
theorem placeVals_spec (cs nz rest : List Nat) (hlen : cs.length = nz.length + 1) (hm : nz.length ≤ 256)
    (hnz : ∀ v ∈ nz, v < 256) (hmax : ∀ c ∈ cs, c ≤ cs.getD nz.length 0) (h32 : ∀ c ∈ cs, c ≤ 32)
    (h0 : cs.count 0 = 0) :
    let vals := (placeVals cs (nz ++ rest) nz.length (bitPos (b0Of cs))).toList.take nz.length
    vals.length = nz.length ∧ vals.Perm nz ∧
      ∀ k, k < nz.length → pos cs k < nz.length ∧ vals.getD (pos cs k) 0 = nz.getD k 0 := by
  intro vals
  have hF := fold_FI cs (nz ++ rest) nz.length hlen hm hmax (bitPos (b0Of cs)) (bitPos_eq_Bc cs h32 h0)
  have hlenv : vals.length = nz.length :=
    List.length_take_of_le (Nat.le_trans hm (Nat.le_of_eq hF.size.symm))
  have hval : ∀ k, k < nz.length → pos cs k < nz.length ∧ vals.getD (pos cs k) 0 = nz.getD k 0 := by
    intro k hk
    have hp := pos_lt cs _ hlen hmax hk
    have e : (nz ++ rest).getD k 0 % 256 = nz.getD k 0 := by
      rw [List.getD_eq_getElem?_getD, List.getElem?_append_left hk, ← List.getD_eq_getElem?_getD]
      exact Nat.mod_eq_of_lt (hnz _ (LL.getD_mem hk 0))
    refine ⟨hp, ?_⟩
    rw [← e, ← hF.val k hk, ← toList_getD, List.getD_eq_getElem?_getD, List.getElem?_take_of_lt hp,
      ← List.getD_eq_getElem?_getD]
    rfl
  refine ⟨hlenv, ?_, hval⟩
  rw [← LL.map_getD_range nz 0]
  exact perm_of_placed hlenv hval fun k k' hk hk' => pos_inj cs (by omega) (by omega)

theorem sum_eq_csum (l : List Nat) : l.sum = csum (fun j => l.getD j 0) l.length := by
  conv => lhs; rw [← LL.map_getD_range l 0]
  exact sum_map_range _ _

theorem sum_getD_range (l : List Nat) {n : Nat} (h : l.length ≤ n) :
    ((List.range n).map (l.getD · 0)).sum = l.sum := by
  rw [sum_map_range, sum_eq_csum, csum_eq_lsum, csum_eq_lsum]
  refine lsum_zero_above _ _ l.length n h fun j hj _ => ?_
  rw [List.getD_eq_getElem?_getD, List.getElem?_eq_none hj]
  rfl

theorem drop1_sum (l : List Nat) : (l.drop 1).sum + l.getD 0 0 = csum (fun j => l.getD j 0) l.length := by
  rw [← sum_eq_csum]
  cases l with
  | nil => rfl
  | cons x xs => simp; omega

theorem genOptimalTable_vals {freq0 : List Nat} {t : Tbl}
    (htot : ((List.range 256).map (freq0.getD · 0)).sum < FREQ_LIMIT) (h : genOptimalTable freq0 = .ok t) :
    t.vals.length = (nzReal freq0).length ∧ t.vals.Perm (nzReal freq0) ∧
      ∀ k, k < (nzReal freq0).length → pos (genCs freq0) k < (nzReal freq0).length ∧
        t.vals.getD (pos (genCs freq0) k) 0 = (nzReal freq0).getD k 0 := by
  obtain ⟨h17, hb, _⟩ := genOptimalTable_bits htot h
  have htotal : (t.bits.drop 1).sum = (nzReal freq0).length := by
    have := drop1_sum t.bits
    rwa [h17, hb.count, hb.zero, Nat.add_zero] at this
  obtain ⟨h32, rfl⟩ := genOptimalTable_ok h
  obtain ⟨hlen', hK, hmax⟩ := genCs_spec freq0 htot
  simp only [htotal]
  rcases Nat.eq_zero_or_pos (nzReal freq0).length with hm0 | hm0
  · rw [hm0, List.eq_nil_of_length_eq_zero hm0]
    exact ⟨rfl, .nil, fun k hk => absurd hk (Nat.not_lt_zero k)⟩
  · exact placeVals_spec (genCs freq0) (nzReal freq0) [256] hlen' (nzReal_length freq0)
      (fun v hv => (nzReal_lt freq0 v hv).1) hmax h32
      (List.count_eq_zero.2 fun h => absurd (depth_pos _ hK hlen' hm0 0 h) (by decide))

/-- With a code for every size, `fillC` fails only through its two checks (symbol range, duplicate).  The cases of
`fillC`: no size left; no code left; no symbol left; a check fails; both pass. -/
theorem fillC_succeeds (sz cs vals L : List Nat) (m : Nat) (co si : Array Nat) (hcs : sz.length ≤ cs.length)
    (hL : vals.take sz.length = L) (hok : ∀ v ∈ L, v ≤ m ∧ si.getD v 0 = 0) (hnd : L.Nodup) :
    ∃ d, fillC sz cs vals m co si = some d := by
  subst hL
  fun_induction fillC sz cs vals m co si with
  | case1 => exact ⟨_, rfl⟩
  | case2 => exact absurd hcs (Nat.not_succ_le_zero _)
  | case3 => exact ⟨_, rfl⟩
  | case4 sz szs c cs v vs m co si hchk =>
    obtain ⟨hv, hz⟩ := hok v (List.mem_cons_self ..)
    simp [hz, Nat.not_lt.2 hv] at hchk
  | case5 sz szs c cs v vs m co si _ ih =>
    rw [List.length_cons, List.take_succ_cons] at hok hnd
    rw [List.nodup_cons] at hnd
    refine ih (Nat.le_of_succ_le_succ hcs) (fun u hu => ⟨(hok u (List.mem_cons_of_mem _ hu)).1, ?_⟩) hnd.2
    rw [Array.getD_eq_getD_getElem?, Array.getElem?_setIfInBounds_ne (fun e : v = u => hnd.1 (e ▸ hu)),
      ← Array.getD_eq_getD_getElem?]
    exact (hok u (List.mem_cons_of_mem _ hu)).2

/-- **Every listed symbol of an acceptable table gets a code of 1 to 16 bits.**  A table that passes the
code-space check, lists as many symbols as it has codes, each once and within the range of its class, is taken
by `jpeg_make_c_derived_tbl`, and the code size stored for each listed symbol lies in 1..16. -/
theorem mkCDerived_of_listed (isDC lossless : Bool) (t : Tbl) (cs : List Nat) (hcodes : codes t.bits = some cs)
    (hlen : (sizes t.bits).length = t.vals.length) (h256 : t.vals.length ≤ 256) (hnd : t.vals.Nodup)
    (hle : ∀ v ∈ t.vals, v ≤ (if isDC then (if lossless then 16 else 15) else 255)) :
    ∃ c, mkCDerived isDC lossless t = some c ∧ ∀ s ∈ t.vals, 1 ≤ c.si.getD s 0 ∧ c.si.getD s 0 ≤ 16 := by
  obtain ⟨c, hfill⟩ := fillC_succeeds (sizes t.bits) cs (t.vals ++ List.replicate (256 - t.vals.length) 0) _ _
    (Array.replicate 256 0) (Array.replicate 256 0) (Nat.le_of_eq (codes_spec hcodes).1.symm)
    (List.take_left' hlen.symm) (fun v hv => ⟨hle v hv, getD_replicate_zero 256 v⟩) hnd
  have hmk : mkCDerived isDC lossless t = some c := by
    unfold mkCDerived
    simp only [hcodes]
    rw [if_neg (Nat.not_lt.2 (hlen ▸ h256))]
    exact hfill
  refine ⟨c, hmk, fun s hs => ?_⟩
  obtain ⟨_, _, _, S, _⟩ := mkCDerived_some hmk
  rcases S s with ⟨q, hq, _, _, e⟩ | ⟨hno, _⟩
  · rw [e]
    exact sizes_le16 t.bits _ (List.getElem_mem hq)
  · rw [List.take_left' hlen.symm] at hno
    exact absurd hs hno

theorem csum_sizesFrom (bits : List Nat) (n l : Nat) :
    csum (fun j => bits.getD j 0) (l + n) = csum (fun j => bits.getD j 0) l + (sizesFrom bits l n).length := by
  induction n generalizing l with
  | zero => rfl
  | succ n ih =>
    rw [show l + (n + 1) = l + 1 + n by omega, ih (l + 1)]
    simp only [sizesFrom, csum, List.length_append, List.length_replicate]
    omega

theorem genOptimalTable_encodes {freq0 : List Nat} {t : Tbl}
    (htot : ((List.range 256).map (freq0.getD · 0)).sum < FREQ_LIMIT) (h : genOptimalTable freq0 = .ok t) :
    ∃ c, mkCDerived false false t = some c ∧ ∀ s ∈ nzReal freq0, 1 ≤ c.si.getD s 0 ∧ c.si.getD s 0 ≤ 16 := by
  obtain ⟨_, hb, cs, hcs⟩ := genOptimalTable_bits htot h
  obtain ⟨hvl, hperm, _⟩ := genOptimalTable_vals htot h
  have hm := nzReal_length freq0
  have hszlen := hb.count.symm.trans (csum_sizesFrom t.bits 16 1)
  simp only [csum, show t.bits.getD 0 0 = 0 from hb.zero, Nat.zero_add, ← hvl] at hszlen
  have hnd : t.vals.Nodup := hperm.nodup_iff.2 (List.Nodup.filter _ List.nodup_range)
  obtain ⟨c, hmk, hsz⟩ := mkCDerived_of_listed false false t cs hcs hszlen.symm (hvl ▸ hm) hnd
    (fun v hv => Nat.le_of_lt_succ (nzReal_lt freq0 v (hperm.mem_iff.1 hv)).1)
  exact ⟨c, hmk, fun s hs => hsz s (hperm.mem_iff.2 hs)⟩

end LJT.Huff
