import LJT.Model.Huff
import LJT.Proofs.ListAux
/-! The length-limiting loop of `jpeg_gen_optimal_table` and the removal of the pseudo-symbol's count.  All sums
over the `bits[]` counters are one weighted sum `lsum w`: the weight `1` counts symbols, `pw n` measures code space in
units of `2^-n`.  A pass of the loop leaves every sum alone whose weight is balanced for its move (`lsum_limitBody`);
the Kraft sum and the count are the two instances.  What the returned counters satisfy is `BitsOK`.

The C array is `bits[MAX_CLEN + 1]` with `MAX_CLEN = 32`: sums over all of it run over the levels `l < 33`, and
code space before the loop is measured in units of `2^-32`; after it only `l < 17` and units of `2^-16` remain. -/
namespace LJT.Huff

/-- `Σ_{l<m} b l · w l` -/
def lsum (w b : Nat → Nat) : Nat → Nat
  | 0 => 0
  | m + 1 => lsum w b m + b m * w m

/-- the code space of one code of length `l`, in units of `2^-n` -/
def pw (n l : Nat) : Nat := 2 ^ (n - l)

/-- `Σ_{l<m} b l` -/
def csum (b : Nat → Nat) : Nat → Nat
  | 0 => 0
  | m + 1 => csum b m + b m

/-- `Σ_{l<m} b l · 2^(16-l)` -/
def k16 (b : Nat → Nat) : Nat → Nat
  | 0 => 0
  | m + 1 => k16 b m + b m * 2 ^ (16 - m)

@[simp] theorem Bits.upd_f (b : Bits) (i v j : Nat) : (b.upd i v).f j = if j = i then v else b.f j := rfl

/-- `csum` and `k16` are `lsum` at the weights `1` and `pw 16`; they are there to phrase `BitsOK`, and the
proofs go through `lsum`. -/
theorem csum_eq_lsum (b : Nat → Nat) (m : Nat) : csum b m = lsum (fun _ => 1) b m := by
  induction m with
  | zero => rfl
  | succ m ih => simp only [csum, lsum, ih, Nat.mul_one]

theorem k16_eq_lsum (b : Nat → Nat) (m : Nat) : k16 b m = lsum (pw 16) b m := by
  induction m with
  | zero => rfl
  | succ m ih => simp only [k16, lsum, ih, pw]

theorem pw_pos (n l : Nat) : 0 < pw n l := Nat.two_pow_pos _

theorem pw_zero (n : Nat) : pw n 0 = 2 ^ n := rfl

theorem pw_succ {n l : Nat} (h : l < n) : pw n l = 2 * pw n (l + 1) := by
  unfold pw
  rw [show n - l = (n - (l + 1)) + 1 by omega, Nat.pow_succ, Nat.mul_comm]

theorem pw_pred {n i : Nat} (h1 : 1 ≤ i) (h2 : i ≤ n) : pw n (i - 1) = 2 * pw n i := by
  rw [pw_succ (show i - 1 < n by omega), Nat.sub_add_cancel h1]

theorem pw_le {n l k : Nat} (h : n ≤ k + l) : pw n l ≤ 2 ^ k :=
  Nat.pow_le_pow_right (by decide) (Nat.sub_le_of_le_add h)

theorem pw_dvd {n l l' : Nat} (h : l' ≤ l) : pw n l ∣ pw n l' :=
  Nat.pow_dvd_pow 2 (Nat.sub_le_sub_left h n)

theorem pw_mul_pw {n N l : Nat} (h1 : l ≤ n) (h2 : n ≤ N) : pw N l = pw n l * pw N n := by
  unfold pw
  rw [← Nat.pow_add, Nat.add_comm, Nat.sub_add_sub_cancel h2 h1]

section
variable (w : Nat → Nat)

theorem lsum_congr {b c : Nat → Nat} (m : Nat) (h : ∀ l, l < m → b l = c l) : lsum w b m = lsum w c m := by
  induction m with
  | zero => rfl
  | succ m ih =>
    simp only [lsum]
    rw [ih fun l hl => h l (Nat.lt_succ_of_lt hl), h m (Nat.lt_succ_self m)]

/-- one counter changed: the sum moves by the difference of the two values, written without subtraction -/
theorem lsum_upd (b : Bits) {i m : Nat} (h : i < m) {v d e : Nat} (hv : v + d = b.f i + e) :
    lsum w (b.upd i v).f m + d * w i = lsum w b.f m + e * w i := by
  induction h with
  | refl =>
    simp only [lsum, Bits.upd_f, if_true]
    rw [lsum_congr w (b := (b.upd i v).f) (c := b.f) i (fun l hl => if_neg (Nat.ne_of_lt hl)),
      Nat.add_assoc, Nat.add_assoc, ← Nat.add_mul, ← Nat.add_mul, hv]
  | @step k hk ih =>
    simp only [lsum, Bits.upd_f]
    rw [if_neg (Nat.ne_of_gt hk), Nat.add_right_comm, ih, Nat.add_right_comm]

theorem lsum_zero_above (b : Nat → Nat) (m m' : Nat) (h : m ≤ m') (hz : ∀ l, m ≤ l → l < m' → b l = 0) :
    lsum w b m' = lsum w b m := by
  induction h with
  | refl => rfl
  | @step k hk ih =>
    simp only [lsum]
    rw [ih (fun l h1 h2 => hz l h1 (Nat.lt_succ_of_lt h2)), hz k hk (Nat.lt_succ_self k), Nat.zero_mul, Nat.add_zero]

theorem lsum_mono (b : Nat → Nat) (m m' : Nat) (h : m ≤ m') : lsum w b m ≤ lsum w b m' := by
  induction h with
  | refl => exact Nat.le_refl _
  | step _ ih => exact Nat.le_trans ih (Nat.le_add_right _ _)

theorem lsum_le_count (b : Nat → Nat) (W : Nat) (hw : ∀ l, b l ≠ 0 → w l ≤ W) (m : Nat) :
    lsum w b m ≤ lsum (fun _ => 1) b m * W := by
  induction m with
  | zero => exact Nat.zero_le _
  | succ m ih =>
    simp only [lsum, Nat.mul_one, Nat.add_mul]
    apply Nat.add_le_add ih
    by_cases h : b m = 0
    · rw [h, Nat.zero_mul]; exact Nat.zero_le _
    · exact Nat.mul_le_mul_left _ (hw m h)

theorem dvd_lsum (b : Nat → Nat) (d m : Nat) (h : ∀ l, l < m → d ∣ w l) : d ∣ lsum w b m := by
  induction m with
  | zero => exact Nat.dvd_zero _
  | succ m ih =>
    exact Nat.dvd_add (ih fun l hl => h l (Nat.lt_succ_of_lt hl))
      (Nat.dvd_trans (h m (Nat.lt_succ_self m)) (Nat.dvd_mul_left _ _))

theorem lsum_count (m : Nat) (ds : List Nat) (h : ∀ d ∈ ds, d < m) :
    lsum w (fun l => ds.count l) m = (ds.map w).sum := by
  induction ds with
  | nil => exact lsum_zero_above w _ 0 m (Nat.zero_le _) (fun l _ _ => List.count_nil)
  | cons d ds ih =>
    obtain ⟨hd, hds⟩ := List.forall_mem_cons.1 h
    -- one more code of length `d`
    have e : (fun l => (d :: ds).count l) = (Bits.upd ⟨fun l => ds.count l⟩ d (ds.count d + 1)).f := by
      funext l
      rw [Bits.upd_f]
      by_cases hl : l = d
      · rw [if_pos hl, hl, List.count_cons_self]
      · rw [if_neg hl, List.count_cons_of_ne (Ne.symm hl)]
    have k := lsum_upd w ⟨fun l => ds.count l⟩ hd (v := ds.count d + 1) (d := 0) (e := 1) rfl
    rw [Nat.zero_mul, Nat.one_mul] at k
    rw [e, List.map_cons, List.sum_cons, ← ih hds, Nat.add_comm (w d)]
    exact k

end

/-- the search ends on the longest level up to `m` in use, or on level 0 if there is none -/
theorem findJ_spec (b : Bits) (m : Nat) : findJ m b ≤ m ∧ (∀ l, findJ m b < l → l ≤ m → b.f l = 0) ∧
    (b.f (findJ m b) = 0 → ∀ l, l ≤ m → b.f l = 0) := by
  -- the cases of `findJ`: level 0 reached; level `j + 1` empty; level `j + 1` in use
  fun_induction findJ m b with
  | case1 => exact ⟨Nat.le_refl _, fun l h1 h2 => absurd h1 (Nat.not_lt.2 h2), fun h l hl => Nat.le_zero.1 hl ▸ h⟩
  | case2 j b e ih =>
    obtain ⟨h1, h2, h3⟩ := ih
    have top : ∀ l, l ≤ j + 1 → (l ≤ j → b.f l = 0) → b.f l = 0 := fun l hl hj =>
      (Nat.lt_or_eq_of_le hl).elim (fun h => hj (Nat.le_of_lt_succ h)) (fun h => h ▸ e)
    exact ⟨Nat.le_succ_of_le h1, fun l hl1 hl2 => top l hl2 (h2 l hl1), fun h l hl => top l hl (h3 h l)⟩
  | case3 j b e => exact ⟨Nat.le_refl _, fun l h1 h2 => absurd h1 (Nat.not_lt.2 h2), fun h => absurd h e⟩

/-- the body of the limiting loop at level `i` with donor level `j` -/
def limitBody (i j : Nat) (b : Bits) : Bits :=
  let b := b.upd i (b.f i - 2)
  let b := b.upd (i - 1) (b.f (i - 1) + 1)
  let b := b.upd (j + 1) (b.f (j + 1) + 2)
  b.upd j (b.f j - 1)

theorem limitBody_f (i j : Nat) (b : Bits) (hj : j + 2 ≤ i) : (limitBody i j b).f i = b.f i - 2 := by
  simp only [limitBody, Bits.upd_f, if_true]
  rw [if_neg (by omega), if_neg (by omega), if_neg (by omega)]

/-- Two codes leave level `i`: one moves up to `i - 1`, one code of level `j` becomes two of level `j + 1`.
A weighted sum stays as it is when the weight is balanced for that move. -/
theorem lsum_limitBody (w : Nat → Nat) (i j m : Nat) (b : Bits) (hj : j + 2 ≤ i) (hi : i < m)
    (h2 : 2 ≤ b.f i) (h1 : 1 ≤ b.f j) (hw : w (i - 1) + 2 * w (j + 1) = 2 * w i + w j) :
    lsum w (limitBody i j b).f m = lsum w b.f m := by
  have hji : j < i := Nat.lt_of_succ_lt hj
  have hj1 : j + 1 ≤ i - 1 := Nat.le_sub_one_of_lt hj
  have hi1 : i - 1 < m := Nat.lt_of_le_of_lt (Nat.sub_le i 1) hi
  let b1 := b.upd i (b.f i - 2)
  let b2 := b1.upd (i - 1) (b1.f (i - 1) + 1)
  let b3 := b2.upd (j + 1) (b2.f (j + 1) + 2)
  have hb3j : b3.f j = b.f j := by
    simp only [b3, b2, b1, Bits.upd_f]
    rw [if_neg (Nat.ne_of_lt (Nat.lt_succ_self j)), if_neg (Nat.ne_of_lt hj1), if_neg (Nat.ne_of_lt hji)]
  have k1 : lsum w b1.f m + 2 * w i = lsum w b.f m + 0 * w i := lsum_upd w b hi (Nat.sub_add_cancel h2)
  have k2 : lsum w b2.f m + 0 * w (i - 1) = lsum w b1.f m + 1 * w (i - 1) := lsum_upd w b1 hi1 rfl
  have k3 : lsum w b3.f m + 0 * w (j + 1) = lsum w b2.f m + 2 * w (j + 1) :=
    lsum_upd w b2 (Nat.lt_of_le_of_lt hj1 hi1) rfl
  have k4 : lsum w (b3.upd j (b3.f j - 1)).f m + 1 * w j = lsum w b3.f m + 0 * w j :=
    lsum_upd w b3 (Nat.lt_trans hji hi) (Nat.sub_add_cancel (hb3j ▸ h1))
  show lsum w (b3.upd j (b3.f j - 1)).f m = _
  omega

/-- The invariant of the limiting loop at level `i`, over the levels up to `i`: Kraft equality and `n` symbols.
(That the levels above `i` are empty is not needed: nothing reads them again.) -/
structure LInv (n : Nat) (b : Bits) (i : Nat) : Prop where
  kraft : lsum (pw 32) b.f (i + 1) = 2 ^ 32
  count : lsum (fun _ => 1) b.f (i + 1) = n

theorem LInv.level_facts {n i : Nat} {b : Bits} (h : LInv n b i) (hn : n ≤ 257) (hi1 : 17 ≤ i) (hi2 : i ≤ 32)
    (hpos : 0 < b.f i) : 2 ≤ b.f i ∧ 1 ≤ b.f (findJ (i - 2) b) := by
  obtain ⟨hK, hc⟩ := h
  constructor
  · -- every other term of the Kraft sum, and the total, is a multiple of `2 · 2^(32-i)`
    have hup : pw 32 (i - 1) = 2 * pw 32 i := pw_pred (Nat.le_trans (by decide) hi1) hi2
    have dlow : pw 32 (i - 1) ∣ lsum (pw 32) b.f i :=
      dvd_lsum (pw 32) b.f _ i (fun l hl => pw_dvd (Nat.le_sub_one_of_lt hl))
    have dall : pw 32 (i - 1) ∣ lsum (pw 32) b.f (i + 1) := hK ▸ pw_dvd (n := 32) (Nat.zero_le _)
    have dtop : 2 * pw 32 i ∣ b.f i * pw 32 i := hup ▸ (Nat.dvd_add_right dlow).1 dall
    have heven : 2 ∣ b.f i := Nat.dvd_of_mul_dvd_mul_right (pw_pos 32 i) dtop
    exact Nat.le_of_dvd hpos heven
  · -- otherwise the search ends at 0, no level below `i - 1` is in use, and at most 257 codes of at most `2^-16`
    -- each fill the code space
    apply Nat.pos_of_ne_zero
    intro hno
    have hz := (findJ_spec b (i - 2)).2.2 hno
    have h16 : 16 ≤ i - 1 := Nat.le_sub_one_of_lt hi1
    have hle := lsum_le_count (pw 32) b.f (2 ^ 16) (fun l hl =>
      have : i - 1 ≤ l := Nat.le_of_not_lt fun hlt => hl (hz l (Nat.le_sub_one_of_lt hlt))
      pw_le (Nat.add_le_add_left (Nat.le_trans h16 this) 16)) (i + 1)
    rw [hK, hc] at hle
    exact absurd (Nat.le_trans hle (Nat.mul_le_mul_right _ hn)) (by decide)

theorem LInv.down {n : Nat} {b : Bits} {i : Nat} (h : LInv n b i) (hi : 1 ≤ i) (hz : b.f i = 0) : LInv n b (i - 1) := by
  obtain ⟨k, rfl⟩ := Nat.exists_eq_add_of_le' hi
  obtain ⟨hK, hc⟩ := h
  simp only [lsum, hz, Nat.zero_mul, Nat.add_zero] at hK hc
  exact ⟨hK, hc⟩

theorem LInv.body {n i j : Nat} {b : Bits} (h : LInv n b i) (hi : i ≤ 32) (hj : j + 2 ≤ i) (h2 : 2 ≤ b.f i)
    (h1 : 1 ≤ b.f j) : LInv n (limitBody i j b) i := by
  have hji : j < i := Nat.lt_of_succ_lt hj
  constructor
  · rw [lsum_limitBody (pw 32) i j _ b hj (Nat.lt_succ_self i) h2 h1, h.kraft]
    rw [pw_pred (Nat.zero_lt_of_lt hji) hi, pw_succ (Nat.lt_of_lt_of_le hji hi)]
  · rw [lsum_limitBody (fun _ => 1) i j _ b hj (Nat.lt_succ_self i) h2 h1 rfl, h.count]

theorem limitAt_inv {n : Nat} (hn : n ≤ 257) (i : Nat) (hi1 : 17 ≤ i) (hi2 : i ≤ 32) (fuel : Nat) (b : Bits)
    (h : LInv n b i) (hf : b.f i ≤ fuel) : LInv n (limitAt i fuel b) (i - 1) := by
  have hi0 : 1 ≤ i := Nat.le_trans (by decide) hi1
  -- the cases of `limitAt`: no fuel left; one more pass (the `let`s of the model are `j`, `b1` .. `b4`); level `i` empty
  fun_induction limitAt i fuel b with
  | case1 b => exact h.down hi0 (Nat.le_zero.1 hf)
  | case2 f b hpos j b1 b2 b3 b4 ih =>
    obtain ⟨h2, h1⟩ := h.level_facts hn hi1 hi2 hpos
    have hj : j + 2 ≤ i := Nat.add_le_of_le_sub (Nat.le_trans (by decide) hi1) (findJ_spec b (i - 2)).1
    refine ih (h.body hi2 hj h2 h1) ?_
    rw [show b4.f i = b.f i - 2 from limitBody_f i j b hj]
    exact Nat.sub_le_of_le_add (Nat.le_succ_of_le hf)
  | case3 f b hpos => exact h.down hi0 (Nat.eq_zero_of_not_pos hpos)

/-- **The length-limiting step**: the Kraft sum and the number of symbols, taken over the lengths up to 32 before
and over the lengths up to 16 after, are unchanged. -/
theorem limitAll_inv {n : Nat} (hn : n ≤ 257) {b : Bits} (h : LInv n b 32) : LInv n (limitAll b) 16 :=
  LL.foldl_range_induct (fun k b => LInv n b (32 - k)) _ b 16 h fun k x hk hx =>
    limitAt_inv hn (32 - k) (by omega) (Nat.sub_le 32 k) _ _ hx (Nat.le_refl _)

theorem lsum_pw_eq (b : Nat → Nat) {n N : Nat} (hN : n ≤ N) (m : Nat) (h : m ≤ n + 1) :
    lsum (pw N) b m = lsum (pw n) b m * pw N n := by
  induction m with
  | zero => exact (Nat.zero_mul _).symm
  | succ m ih =>
    simp only [lsum]
    rw [ih (Nat.le_of_succ_le h), pw_mul_pw (Nat.le_of_succ_le_succ h) hN, Nat.add_mul, Nat.mul_assoc]

/-- a Kraft equality over the levels up to `n` in units of `2^-N`, read in units of `2^-n` -/
theorem kraft_rescale {b : Nat → Nat} {n N m : Nat} (hN : n ≤ N) (hm : m ≤ n + 1) (h : lsum (pw N) b m = 2 ^ N) :
    lsum (pw n) b m = 2 ^ n :=
  Nat.eq_of_mul_eq_mul_right (pw_pos N n)
    (((lsum_pw_eq b hN m hm).symm.trans h).trans (pw_mul_pw (l := 0) (Nat.zero_le n) hN))

/-- 256 codes of one length leave either no room or more than one code point of any longer length -/
theorem no_256 (l0 L : Nat) (h : l0 ≤ L) : 256 * pw 16 l0 + pw 16 L ≠ 2 ^ 16 := by
  intro e
  have hL : pw 16 L ≤ pw 16 l0 := Nat.le_of_dvd (pw_pos 16 l0) (pw_dvd h)
  have := pw_pos 16 L
  by_cases h8 : l0 ≤ 8
  · have : 2 ^ 8 ≤ pw 16 l0 :=
      Nat.pow_le_pow_right (by decide) (Nat.le_sub_of_add_le (Nat.add_le_add_left h8 8))
    omega
  · have : pw 16 l0 ≤ 2 ^ 7 := pw_le (Nat.add_le_add_left (Nat.lt_of_not_le h8) 7)
    omega

/-- what the returned `bits[]` satisfies, as a function of the level -/
structure BitsOK (b : Nat → Nat) (nsym : Nat) : Prop where
  count : csum b 17 = nsym
  kraft : ∃ L, L ≤ 16 ∧ k16 b 17 + 2 ^ (16 - L) = 2 ^ 16 ∧ ∀ l, L < l → l ≤ 16 → b l = 0
  small : ∀ l, l ≤ 16 → b l ≤ 255

/-- No counter reaches 256 (the `UINT8` copy-out loses nothing): with at most 256 symbols a counter of 256 would
be the only one, and 256 codes of one length leave no single code point of the longest length free. -/
theorem counter_small (b : Bits) (L : Nat) (hcnt : lsum (fun _ => 1) b.f 17 ≤ 256)
    (hkr : lsum (pw 16) b.f 17 + pw 16 L = 2 ^ 16) (hzer : ∀ l, L < l → l ≤ 16 → b.f l = 0) :
    ∀ l, l ≤ 16 → b.f l ≤ 255 := by
  intro l0 hl0
  apply Classical.byContradiction
  intro hbig
  have hl17 : l0 < 17 := Nat.lt_succ_of_le hl0
  have hl0L : l0 ≤ L := Nat.le_of_not_lt fun hlt =>
    hbig (Nat.le_trans (Nat.le_of_eq (hzer l0 hlt hl0)) (Nat.zero_le _))
  -- the counters without level `l0` count no code, so they take no code space
  have c := lsum_upd (fun _ => 1) b hl17 (v := 0) (e := 0) (Nat.zero_add _)
  have k := lsum_upd (pw 16) b hl17 (v := 0) (e := 0) (Nat.zero_add _)
  have hle := lsum_le_count (pw 16) (b.upd l0 0).f (2 ^ 16) (fun l _ => pw_le (Nat.le_add_right 16 l)) 17
  have h256 : b.f l0 = 256 := by omega
  rw [h256] at k
  exact no_256 l0 L hl0L (by omega)

/-- **Removing the pseudo-symbol's count** from the longest length in use leaves counters that satisfy `BitsOK`:
one code point of that length stays free. -/
theorem remove_pseudo {n : Nat} {b2 : Bits} (h : LInv (n + 1) b2 16) (hn : n ≤ 256) :
    BitsOK (b2.upd (findJ 16 b2) (b2.f (findJ 16 b2) - 1)).f n := by
  obtain ⟨hK, hc17⟩ := h
  have hk : lsum (pw 16) b2.f 17 = 2 ^ 16 := kraft_rescale (show 16 ≤ 32 by decide) (Nat.le_refl 17) hK
  obtain ⟨hLle, hLz, hLall⟩ := findJ_spec b2 16
  generalize findJ 16 b2 = L at hLle hLall hLz
  -- the longest length in use (0 when the table holds the pseudo-symbol alone) has a code, or no level had one
  have hLpos : 1 ≤ b2.f L := Nat.pos_of_ne_zero fun e =>
    have hs := lsum_zero_above (pw 16) b2.f 0 17 (Nat.zero_le _) (fun l _ h2 => hLall e l (Nat.le_of_lt_succ h2))
    absurd (hk.symm.trans hs : 2 ^ 16 = 0) (by decide)
  have hL17 : L < 17 := Nat.lt_succ_of_le hLle
  have k1 := lsum_upd (pw 16) b2 hL17 (e := 0) (Nat.sub_add_cancel hLpos)
  have c1 := lsum_upd (fun _ => 1) b2 hL17 (e := 0) (Nat.sub_add_cancel hLpos)
  have hzer : ∀ l, L < l → l ≤ 16 → (b2.upd L (b2.f L - 1)).f l = 0 := by
    intro l h1 h2
    rw [Bits.upd_f, if_neg (Nat.ne_of_gt h1)]
    exact hLz l h1 h2
  generalize b2.upd L (b2.f L - 1) = b3 at k1 c1 hzer
  have hcnt : lsum (fun _ => 1) b3.f 17 = n := Nat.add_right_cancel (c1.trans hc17)
  have hkr : lsum (pw 16) b3.f 17 + pw 16 L = 2 ^ 16 := by omega
  exact ⟨by rw [csum_eq_lsum]; exact hcnt, ⟨L, hLle, by rw [k16_eq_lsum]; exact hkr, hzer⟩,
    counter_small b3 L (Nat.le_trans (Nat.le_of_eq hcnt) hn) hkr hzer⟩

theorem BitsOK.congr {b c : Nat → Nat} {m : Nat} (h : BitsOK b m) (e : ∀ l, l < 17 → c l = b l) : BitsOK c m := by
  obtain ⟨L, hL, hk, hz⟩ := h.kraft
  refine ⟨?_, ⟨L, hL, ?_, ?_⟩, ?_⟩
  · rw [csum_eq_lsum, lsum_congr _ 17 e, ← csum_eq_lsum]; exact h.count
  · rw [k16_eq_lsum, lsum_congr _ 17 e, ← k16_eq_lsum]; exact hk
  · intro l h1 h2
    rw [e l (Nat.lt_succ_of_le h2)]
    exact hz l h1 h2
  · intro l hl
    rw [e l (Nat.lt_succ_of_le hl)]
    exact h.small l hl

theorem BitsOK.lt {b : Nat → Nat} {m : Nat} (h : BitsOK b m) : k16 b 17 < 2 ^ 16 := by
  obtain ⟨L, _, hk, _⟩ := h.kraft
  rw [← hk]
  exact Nat.lt_add_of_pos_right (Nat.two_pow_pos _)

theorem BitsOK.zero {b : Nat → Nat} {m : Nat} (h : BitsOK b m) : b 0 = 0 := by
  have h1 : 0 + b 0 * 2 ^ 16 ≤ lsum (pw 16) b 17 := lsum_mono (pw 16) b 1 17 (by decide)
  rw [Nat.zero_add, ← k16_eq_lsum] at h1
  have h2 : b 0 * 2 ^ 16 < 1 * 2 ^ 16 := Nat.lt_of_le_of_lt h1 ((Nat.one_mul _).symm ▸ h.lt)
  exact Nat.lt_one_iff.1 (Nat.lt_of_mul_lt_mul_right h2)

end LJT.Huff
