import LJT.Model.Huff
import LJT.Proofs.ListAux
/-! The merge loop of `jpeg_gen_optimal_table` (Annex K.2 as coded).  The scan selects the two trees that are least in
the order "smaller weight first, ties to the later slot"; `key` encodes that order in one number, and keys are compared
only through the order lemmas below.  One pass of the loop is described once, up to order (`Merged`); the forest
invariant `Inv` (weights, slots, a Kraft equality per tree) and the invariant `PInv` that keeps the pseudo-symbol on
the deepest level survive such a pass, and `mergeAll_induct` carries them to the single final tree.

Why the pseudo-symbol ends deepest: keys of created trees increase strictly with time, and the `k`-th ancestor of the
pseudo-symbol is created before any other tree of height `k`.  The ghost state of `PInv` records the pair merged
last, the depth `h` of the pseudo-symbol `P` in its tree and, for `1 ≤ k ≤ h`, the key `anc k` its `k`-th ancestor had
when it was created.  It holds keys of trees that are gone as the same formula over a stored weight and slot
(`Ghost.ka`, `kb`, `klast`); they meet `key` by definitional unfolding, at the places marked in `PInv.step` and
`initForest_pinv`. -/
namespace LJT.Huff

/-- selection order of the scan as one number: smaller weight first, ties to the larger slot -/
def key (t : Tree) : Nat := t.w * 512 + (511 - t.idx)

/-- the forest as the scan needs it -/
structure WF (ts : List Tree) : Prop where
  /-- the live slots in ascending order, as `for (i = 0; i < num_nz_symbols; i++)` visits them -/
  sorted : ts.Pairwise (fun a b => a.idx < b.idx)
  /-- there are at most 257 slots; below 512 the weight decides first in `key` -/
  idx_lt : ∀ t ∈ ts, t.idx < 512
  /-- only non-zero frequencies get a slot -/
  w_pos : ∀ t ∈ ts, 1 ≤ t.w
  /-- a live `freq[]` entry passes the test `freq[i] <= v2` against the initial `v2 = 1000000000` -/
  w_le : ∀ t ∈ ts, t.w ≤ FREQ_LIMIT

theorem key_lt_of_w_lt {a b : Tree} (h : a.w < b.w) : key a < key b := by
  unfold key; omega

theorem key_lt_of_idx_lt {a b : Tree} (hw : a.w ≤ b.w) (hi : b.idx < a.idx) (ha : a.idx < 512) :
    key a < key b := by
  unfold key; omega

theorem w_le_of_key_lt {a b : Tree} (h : key a < key b) : a.w ≤ b.w :=
  Nat.le_of_not_lt fun hlt => Nat.lt_asymm h (key_lt_of_w_lt hlt)

theorem ne_of_key_lt {a b : Tree} (h : key a < key b) : a ≠ b :=
  fun e => Nat.lt_irrefl _ (e ▸ h)

theorem idx_lt_of_key_lt {a b : Tree} (h : key a < key b) (hw : b.w ≤ a.w) : b.idx < a.idx := by
  unfold key at h; omega

/-- the states of the scan over the trees `p`: nothing seen, one tree seen, or `p` is, up to order, the tree with
the least key, the tree with the second least key, and the trees above both -/
inductive ScanInv : List Tree → Scan → Prop
  | zero : ScanInv [] ⟨FREQ_LIMIT, none, FREQ_LIMIT, none⟩
  | one (a : Tree) : ScanInv [a] ⟨a.w, some a, FREQ_LIMIT, none⟩
  | two {p rest : List Tree} {a b : Tree} : p.Perm (a :: b :: rest) → key a < key b →
      (∀ t ∈ rest, key b < key t) → ScanInv p ⟨a.w, some a, b.w, some b⟩

theorem scanInv_step (p : List Tree) (s : Scan) (t : Tree) (h : ScanInv p s)
    (hidx : ∀ u ∈ p, u.idx < t.idx) (ht : t.idx < 512) (hw : t.w ≤ FREQ_LIMIT) :
    ScanInv (p ++ [t]) (scanStep s t) := by
  -- `t` comes after every tree seen so far, so `t.w ≤ u.w` means that `t` is selected before `u`
  have tie : ∀ u ∈ p, t.w ≤ u.w → key t < key u := fun u hu hle => key_lt_of_idx_lt hle (hidx u hu) ht
  have above : ∀ {u : Tree}, ¬ t.w ≤ u.w → key u < key t := fun h => key_lt_of_w_lt (Nat.lt_of_not_le h)
  cases h with
  | zero =>
    simp only [scanStep, hw, if_true]
    exact .one t
  | one a =>
    simp only [scanStep, hw, if_true]
    by_cases h1 : t.w ≤ a.w
    · rw [if_pos h1]
      exact .two (.swap t a []) (tie a List.mem_cons_self h1) (by simp)
    · rw [if_neg h1]
      exact .two (.refl [a, t]) (above h1) (by simp)
  | @two _ rest a b hp hab hrest =>
    have hp' : (p ++ [t]).Perm (t :: a :: b :: rest) := (List.perm_append_singleton t p).trans (hp.cons t)
    simp only [scanStep]
    by_cases h2 : t.w ≤ b.w
    · have htb := tie b (hp.mem_iff.2 (List.mem_cons_of_mem a List.mem_cons_self)) h2
      by_cases h1 : t.w ≤ a.w
      · rw [if_pos h2, if_pos h1]
        exact .two hp' (tie a (hp.mem_iff.2 List.mem_cons_self) h1)
          (List.forall_mem_cons.2 ⟨hab, fun u hu => Nat.lt_trans hab (hrest u hu)⟩)
      · rw [if_pos h2, if_neg h1]
        exact .two (hp'.trans (.swap a t _)) (above h1)
          (List.forall_mem_cons.2 ⟨htb, fun u hu => Nat.lt_trans htb (hrest u hu)⟩)
    · rw [if_neg h2]
      exact .two (hp'.trans ((List.Perm.swap a t _).trans ((List.Perm.swap b t _).cons a))) hab
        (List.forall_mem_cons.2 ⟨above h2, hrest⟩)

theorem foldl_scanInv : ∀ (q p : List Tree) (s : Scan), WF (p ++ q) → ScanInv p s →
    ScanInv (p ++ q) (q.foldl scanStep s) := by
  intro q
  induction q with
  | nil => intro p s _ h; simpa using h
  | cons t q ih =>
    intro p s hwf h
    have ht : t ∈ p ++ t :: q := List.mem_append_right p List.mem_cons_self
    rw [List.append_cons, List.foldl_cons]
    apply ih
    · rw [← List.append_cons]; exact hwf
    · exact scanInv_step p s t h (fun u hu => (List.pairwise_append.1 hwf.sorted).2.2 u hu t List.mem_cons_self)
        (hwf.idx_lt t ht) (hwf.w_le t ht)

theorem findTwo_inv (ts : List Tree) (h : WF ts) : ScanInv ts (findTwo ts) :=
  foldl_scanInv ts [] _ h .zero

/-- One pass of the merge loop, up to order: the trees `a`, `b` with the two least keys give way to their
merge, which takes the slot of `a`. -/
structure Merged (ts ts' : List Tree) (a b : Tree) (rest : List Tree) : Prop where
  perm : ts.Perm (a :: b :: rest)
  perm_after : ts'.Perm (mergeTrees a b :: rest)
  lt : key a < key b
  above : ∀ t ∈ rest, key b < key t
  sorted_after : ts'.Pairwise (fun x y => x.idx < y.idx)

section
variable {ts ts' : List Tree} {a b : Tree} {rest : List Tree} (m : Merged ts ts' a b rest)
include m

theorem Merged.mem_iff (t : Tree) : t ∈ ts ↔ t = a ∨ t = b ∨ t ∈ rest := by
  rw [m.perm.mem_iff]; simp

theorem Merged.mem_iff_after (t : Tree) : t ∈ ts' ↔ t = mergeTrees a b ∨ t ∈ rest := by
  rw [m.perm_after.mem_iff]; simp

theorem Merged.mem : a ∈ ts ∧ b ∈ ts ∧ ∀ t ∈ rest, t ∈ ts :=
  ⟨(m.mem_iff a).2 (Or.inl rfl), (m.mem_iff b).2 (Or.inr (Or.inl rfl)), fun t ht => (m.mem_iff t).2 (Or.inr (Or.inr ht))⟩

theorem Merged.forall_after {P : Tree → Prop} (hM : P (mergeTrees a b)) (hr : ∀ t ∈ rest, P t) : ∀ t ∈ ts', P t := by
  intro t ht
  rcases (m.mem_iff_after t).1 ht with e | e
  · rw [e]; exact hM
  · exact hr t e

theorem Merged.length : 1 ≤ ts'.length ∧ ts.length = ts'.length + 1 :=
  ⟨m.perm_after.length_eq ▸ Nat.succ_pos _, m.perm.length_eq.trans (congrArg Nat.succ m.perm_after.length_eq.symm)⟩

end

/-- the function applied to the survivors of a merge: slot `a.idx` now holds the merged tree -/
def repl (a b : Tree) : Tree → Tree := fun t => if t.idx = a.idx then mergeTrees a b else t

theorem repl_idx (a b t : Tree) : (repl a b t).idx = t.idx := by
  unfold repl; split
  · rename_i e; exact e.symm
  · rfl

theorem mergeStep_cases (ts : List Tree) (h : WF ts) :
    (ts.length ≤ 1 ∧ mergeStep ts = none) ∨ ∃ ts' a b rest, mergeStep ts = some ts' ∧ Merged ts ts' a b rest := by
  have hi := findTwo_inv ts h
  unfold mergeStep
  generalize findTwo ts = s at hi
  cases hi with
  | zero => exact .inl ⟨Nat.zero_le 1, rfl⟩
  | one a => exact .inl ⟨Nat.le_refl 1, rfl⟩
  | @two _ rest a b hp hab hrest =>
    refine .inr ⟨_, a, b, rest, rfl, hp, ?_, hab, hrest, ?_⟩
    · -- slots are distinct, so `repl a b` changes `a` alone
      have hd := (hp.pairwise_iff (fun h => h.symm)).1 (h.sorted.imp Nat.ne_of_lt)
      have hidx : ∀ t ∈ rest, repl a b t = t := fun t ht =>
        if_neg (Ne.symm ((List.pairwise_cons.1 hd).1 t (List.mem_cons_of_mem b ht)))
      have := ((hp.trans (.swap b a rest)).erase b).map (repl a b)
      rwa [List.erase_cons_head, List.map_cons, show repl a b a = mergeTrees a b from if_pos rfl,
        (List.map_congr_left hidx).trans (List.map_id' rest)] at this
    · exact (h.sorted.erase b).map (repl a b) fun x y hxy => by rw [repl_idx, repl_idx]; exact hxy

/-- the sum of the live `freq[]` entries -/
def wsum (ts : List Tree) : Nat := (ts.map (·.w)).sum
/-- the slots on the `others[]` chains of all live trees -/
def slots (ts : List Tree) : List Nat := (ts.flatMap (·.mem)).map (·.1)
/-- The Kraft sum of a chain, `Σ 2^-codesize`, in units of `2^-300`.  Any exponent that no `codesize` exceeds
would do (the subtraction must not truncate, `kr_bump`); depths stay below the number of slots, at most 257
(`Inv.depth`), and 300 is the fuel the model gives `mergeAll`. -/
def kr (m : List (Nat × Nat)) : Nat := (m.map (fun p => 2 ^ (300 - p.2))).sum

theorem perm_wsum {l1 l2 : List Tree} (p : l1.Perm l2) : wsum l1 = wsum l2 :=
  (p.map (fun t : Tree => t.w)).sum_nat

theorem perm_slots {l1 l2 : List Tree} (p : l1.Perm l2) : (slots l1).Perm (slots l2) :=
  (p.flatMap_right _).map _

theorem bump_fst (m : List (Nat × Nat)) : (bump m).map (·.1) = m.map (·.1) := by
  simp [bump, List.map_map, Function.comp_def]

theorem kr_append (m1 m2 : List (Nat × Nat)) : kr (m1 ++ m2) = kr m1 + kr m2 := by
  simp [kr, List.sum_append]

theorem kr_bump (m : List (Nat × Nat)) (h : ∀ p ∈ m, p.2 < 300) : kr (bump m) * 2 = kr m := by
  induction m with
  | nil => rfl
  | cons p m ih =>
    obtain ⟨hp, hm⟩ := List.forall_mem_cons.1 h
    have ih' := ih hm
    simp only [kr, bump, List.map_cons, List.sum_cons] at ih' ⊢
    have e : 300 - p.2 = (300 - (p.2 + 1)) + 1 := (Nat.sub_add_cancel (Nat.sub_pos_of_lt hp)).symm
    rw [e, Nat.pow_succ]
    rw [Nat.add_mul, ih']

/-- the invariant of the merge loop for `n` slots of total frequency `W` -/
structure Inv (n W : Nat) (ts : List Tree) : Prop where
  wf : WF ts
  /-- merging adds two `freq[]` entries into one -/
  wsum_eq : wsum ts = W
  /-- every slot is on exactly one chain -/
  slots_perm : (slots ts).Perm (List.range n)
  /-- the `codesize[]` values on a chain are the depths of the leaves of a full binary tree -/
  kraft : ∀ t ∈ ts, kr t.mem = 2 ^ 300
  /-- a `codesize` is at most the number of merges so far, `n - ts.length` -/
  depth : ∀ t ∈ ts, ∀ p ∈ t.mem, p.2 + ts.length ≤ n

theorem mem_mergeTrees {a b : Tree} {p : Nat × Nat} :
    p ∈ (mergeTrees a b).mem ↔ ∃ q, (q ∈ a.mem ∨ q ∈ b.mem) ∧ p = (q.1, q.2 + 1) := by
  simp only [mergeTrees, bump, List.mem_map, List.mem_append]
  exact ⟨fun ⟨q, hq, e⟩ => ⟨q, hq, e.symm⟩, fun ⟨q, hq, e⟩ => ⟨q, hq, e.symm⟩⟩

theorem Inv.step {n W : Nat} {ts ts' : List Tree} {a b : Tree} {rest : List Tree} (hn : n ≤ 257)
    (hW : W ≤ FREQ_LIMIT) (h : Inv n W ts) (m : Merged ts ts' a b rest) : Inv n W ts' := by
  obtain ⟨ha, hb, hrest⟩ := m.mem
  have hlen : ts.length = ts'.length + 1 := m.length.2
  have hsum : wsum ts' = W :=
    ((perm_wsum m.perm_after).trans ((Nat.add_assoc a.w b.w _).trans (perm_wsum m.perm).symm)).trans h.wsum_eq
  have hdab : ∀ q, q ∈ a.mem ∨ q ∈ b.mem → q.2 + ts.length ≤ n := fun q hq =>
    hq.elim (h.depth a ha q) (h.depth b hb q)
  exact {
    wf := {
      sorted := m.sorted_after
      idx_lt := m.forall_after (h.wf.idx_lt a ha) fun t ht => h.wf.idx_lt t (hrest t ht)
      w_pos := m.forall_after (Nat.le_trans (h.wf.w_pos a ha) (Nat.le_add_right _ _)) fun t ht =>
        h.wf.w_pos t (hrest t ht)
      -- no weight exceeds the total
      w_le := fun t ht =>
        Nat.le_trans (LL.le_sum_of_mem _ _ (List.mem_map_of_mem ht)) (Nat.le_trans (Nat.le_of_eq hsum) hW) }
    wsum_eq := hsum
    slots_perm := by
      refine (perm_slots m.perm_after).trans (List.Perm.trans ?_ ((perm_slots m.perm).symm.trans h.slots_perm))
      simp only [slots, List.flatMap_cons, List.map_append, mergeTrees, bump_fst, List.append_assoc]
      exact List.Perm.refl _
    kraft := by
      refine m.forall_after ?_ (fun t ht => h.kraft t (hrest t ht))
      have := kr_bump (a.mem ++ b.mem) (fun p hp =>
        Nat.lt_of_le_of_lt (Nat.le_trans (Nat.le_add_right _ _) (hdab p (List.mem_append.1 hp)))
          (Nat.lt_of_le_of_lt hn (by decide)))
      rw [kr_append, h.kraft b hb, ← h.kraft a ha, ← Nat.mul_two] at this
      exact (Nat.eq_of_mul_eq_mul_right (by decide) this).trans (h.kraft a ha)
    depth := by
      refine m.forall_after ?_ (fun t ht p hp =>
        Nat.le_trans (Nat.add_le_add_left (hlen ▸ Nat.le_succ _) _) (h.depth t (hrest t ht) p hp))
      intro p hp
      obtain ⟨q, hq, e⟩ := mem_mergeTrees.1 hp
      rw [e]
      show q.2 + 1 + ts'.length ≤ n
      rw [Nat.add_assoc, Nat.add_comm 1, ← hlen]
      exact hdab q hq }

theorem mergeAll_induct (I : List Tree → Prop) (hwf : ∀ ts, I ts → WF ts)
    (hstep : ∀ ts ts' a b rest, I ts → Merged ts ts' a b rest → I ts') :
    ∀ (fuel : Nat) (ts : List Tree), I ts → 1 ≤ ts.length → ts.length ≤ fuel + 1 →
      ∃ T, mergeAll fuel ts = [T] ∧ I [T] := by
  have single : ∀ ts : List Tree, I ts → 1 ≤ ts.length → ts.length ≤ 1 → ∃ T, ts = [T] ∧ I [T] := by
    intro ts h h1 h2
    obtain ⟨T, rfl⟩ := List.length_eq_one_iff.1 (Nat.le_antisymm h2 h1)
    exact ⟨T, rfl, h⟩
  intro fuel
  induction fuel with
  | zero => intro ts h h1 h2; exact single ts h h1 h2
  | succ f ih =>
    intro ts h h1 h2
    rcases mergeStep_cases ts (hwf ts h) with ⟨hl, hs⟩ | ⟨ts', a, b, rest, hs, m⟩
    · simp only [mergeAll, hs]
      exact single ts h h1 hl
    · obtain ⟨hpos, hlen⟩ := m.length
      simp only [mergeAll, hs]
      exact ih ts' (hstep ts ts' a b rest h m) hpos (Nat.le_of_succ_le_succ (Nat.le_trans (Nat.le_of_eq hlen.symm) h2))

theorem mergeAll_final {n W : Nat} (hn : n ≤ 257) (hW : W ≤ FREQ_LIMIT) :
    ∀ (fuel : Nat) (ts : List Tree), Inv n W ts → 1 ≤ ts.length → ts.length ≤ fuel + 1 →
      ∃ T, mergeAll fuel ts = [T] ∧ Inv n W [T] :=
  mergeAll_induct (Inv n W) (fun _ h => h.wf) (fun _ _ _ _ _ h m => h.step hn hW m)

/-- what `PInv` remembers of the past of the forest; nothing in the C code corresponds to it -/
structure Ghost where
  /-- the weight `c1` had in the last merge -/
  wa : Nat
  /-- the slot `c1` of the last merge -/
  ia : Nat
  /-- the weight `c2` had in the last merge -/
  wb : Nat
  /-- the slot `c2` of the last merge -/
  ib : Nat
  /-- `codesize` of the pseudo-symbol -/
  h : Nat
  /-- for `1 ≤ k ≤ h`: the key the `k`-th ancestor of the pseudo-symbol had when it was created -/
  anc : Nat → Nat

/-- `key` of the tree created by the last merge (weight `wa + wb` in slot `ia`) -/
def Ghost.klast (g : Ghost) : Nat := (g.wa + g.wb) * 512 + (511 - g.ia)
/-- `key` that `c2` of the last merge had -/
def Ghost.kb (g : Ghost) : Nat := g.wb * 512 + (511 - g.ib)
/-- `key` that `c1` of the last merge had -/
def Ghost.ka (g : Ghost) : Nat := g.wa * 512 + (511 - g.ia)

/-- the invariant that keeps the pseudo-symbol (slot `P`) on the deepest level -/
structure PInv (P : Nat) (ts : List Tree) (g : Ghost) : Prop where
  ia_lt : g.ia < 512
  ib_lt : g.ib < 512
  /-- `c1` was selected before `c2` -/
  ka_lt : g.ka < g.kb
  /-- every live tree would have been selected after the pair merged last -/
  above : ∀ t ∈ ts, g.kb < key t
  /-- The tree `TP` of the pseudo-symbol, in five parts: `P` is in it at depth `h`; nothing in it is deeper; once
  merged (`1 ≤ h`) it still has the key it was created with, `anc h`; before that (`h = 0`) it is the least tree;
  every other tree reaches a depth `d ≥ 1` only if `d ≤ h`, and then it was created after the `d`-th ancestor. -/
  tp : ∃ TP ∈ ts, (P, g.h) ∈ TP.mem ∧ (∀ p ∈ TP.mem, p.2 ≤ g.h) ∧ (1 ≤ g.h → key TP = g.anc g.h) ∧
        (g.h = 0 → ∀ t ∈ ts, t ≠ TP → key TP < key t) ∧
        (∀ t ∈ ts, t ≠ TP → ∀ p ∈ t.mem, 1 ≤ p.2 → p.2 ≤ g.h ∧ g.anc p.2 < key t)
  /-- the ancestors in the order of their creation -/
  anc_mono : ∀ j k, 1 ≤ j → j < k → k ≤ g.h → g.anc j < g.anc k
  /-- none of them is younger than the tree created last -/
  anc_le : ∀ k, 1 ≤ k → k ≤ g.h → g.anc k ≤ g.klast
  /-- nor is any tree that is the result of a merge -/
  created : ∀ t ∈ ts, (∃ p ∈ t.mem, 1 ≤ p.2) → key t ≤ g.klast

/-- keys of created trees increase with time: a pair taken from above `b` merges to a tree above that of `a`, `b` -/
theorem key_merge_lt {a b c d : Tree} (hab : key a < key b) (hbc : key b < key c) (hbd : key b < key d)
    (ha : a.idx < 512) : key (mergeTrees a b) < key (mergeTrees c d) := by
  have h1 := w_le_of_key_lt hab
  have h2 := w_le_of_key_lt hbc
  have h3 := w_le_of_key_lt hbd
  by_cases hlt : a.w + b.w < c.w + d.w
  · exact key_lt_of_w_lt hlt
  · -- then the four weights coincide, and the slots decide
    obtain ⟨e1, e2, hw⟩ : b.w ≤ a.w ∧ c.w ≤ b.w ∧ a.w + b.w ≤ c.w + d.w := by omega
    have i1 := idx_lt_of_key_lt hab e1
    have i2 := idx_lt_of_key_lt hbc e2
    have hw' : (mergeTrees a b).w ≤ (mergeTrees c d).w := hw
    exact key_lt_of_idx_lt hw' (Nat.lt_trans i2 i1) ha

theorem PInv.deepest {P : Nat} {ts : List Tree} {g : Ghost} (h : PInv P ts g) : ∀ t ∈ ts, ∀ p ∈ t.mem, p.2 ≤ g.h := by
  obtain ⟨TP, _, _, hPd, _, _, hPo⟩ := h.tp
  intro t ht p hp
  by_cases e : t = TP
  · exact hPd p (e ▸ hp)
  · by_cases h1 : 1 ≤ p.2
    · exact (hPo t ht e p hp h1).1
    · exact Nat.le_trans (Nat.le_of_lt_succ (Nat.lt_of_not_le h1)) (Nat.zero_le _)

theorem PInv.step {P : Nat} {ts ts' : List Tree} {g : Ghost} {a b : Tree} {rest : List Tree}
    (h : PInv P ts g) (hwf : WF ts) (m : Merged ts ts' a b rest) : ∃ g', PInv P ts' g' := by
  obtain ⟨ha, hb, hrest⟩ := m.mem
  have hai := hwf.idx_lt a ha
  have haw := hwf.w_pos a ha
  have deep := h.deepest
  let M := mergeTrees a b
  -- `g.ka`, `g.kb`, `g.klast` unfold to `key` of the trees with the stored weights and slots and of their merge
  have klast_lt : g.klast < key M :=
    key_merge_lt (a := ⟨g.wa, g.ia, []⟩) (b := ⟨g.wb, g.ib, []⟩) h.ka_lt (h.above a ha) (h.above b hb) h.ia_lt
  have b_lt : key b < key M := key_lt_of_w_lt (show b.w < a.w + b.w from Nat.lt_add_of_pos_left haw)
  have anc_lt : ∀ k, 1 ≤ k → k ≤ g.h → g.anc k < key M := fun k h1 h2 =>
    Nat.lt_of_le_of_lt (h.anc_le k h1 h2) klast_lt
  have above' : ∀ t ∈ ts', key b < key t := m.forall_after b_lt m.above
  have created' : ∀ t ∈ ts', (∃ p ∈ t.mem, 1 ≤ p.2) → key t ≤ key M :=
    m.forall_after (fun _ => Nat.le_refl _) (fun t ht hc =>
      Nat.le_of_lt (Nat.lt_of_le_of_lt (h.created t (hrest t ht) hc) klast_lt))
  obtain ⟨TP, hTP, hPm, hPd, hPk, hP0, hPo⟩ := h.tp
  by_cases eTP : TP ∈ rest
  · -- the pseudo-symbol's tree is not involved: `a` and `b` were selected before it, so they are less deep
    have kTP : key b < key TP := m.above TP eTP
    have kaTP : key a < key TP := Nat.lt_trans m.lt kTP
    have hh : 1 ≤ g.h := Nat.pos_of_ne_zero fun h0 =>
      Nat.lt_asymm (hP0 h0 a ha (ne_of_key_lt kaTP)) kaTP
    have shallow : ∀ X ∈ ts, key X < key TP → ∀ q ∈ X.mem, q.2 + 1 ≤ g.h := by
      intro X hX kX q hq
      apply Nat.lt_of_le_of_ne (deep X hX q hq)
      intro e
      have := (hPo X hX (ne_of_key_lt kX) q hq (e ▸ hh)).2
      rw [e, ← hPk hh] at this
      exact Nat.lt_asymm this kX
    refine ⟨⟨a.w, a.idx, b.w, b.idx, g.h, g.anc⟩, {
      ia_lt := hai
      ib_lt := hwf.idx_lt b hb
      ka_lt := m.lt
      above := above'
      tp := ⟨TP, (m.mem_iff_after _).2 (Or.inr eTP), hPm, hPd, hPk, fun h0 => absurd h0 (Nat.ne_of_gt hh),
        m.forall_after (fun _ p hp hp1 => ?_) (fun t ht => hPo t (hrest t ht))⟩
      anc_mono := h.anc_mono
      anc_le := fun k h1 h2 => Nat.le_of_lt (anc_lt k h1 h2)
      created := created' }⟩
    -- left of `tp`: the merged tree is another tree than the pseudo-symbol's
    obtain ⟨q, hq, e⟩ := mem_mergeTrees.1 hp
    have hle : p.2 ≤ g.h := by
      rw [e]
      exact hq.elim (shallow a ha kaTP q) (shallow b hb kTP q)
    exact ⟨hle, anc_lt p.2 hp1 hle⟩
  · -- the pseudo-symbol's tree is one of `a`, `b`: one level deeper, one more ancestor
    have hPab : (P, g.h) ∈ a.mem ∨ (P, g.h) ∈ b.mem := by
      rcases (m.mem_iff TP).1 hTP with e | e | e
      · exact Or.inl (e ▸ hPm)
      · exact Or.inr (e ▸ hPm)
      · exact absurd e eTP
    obtain ⟨anc', anc_old, anc_new⟩ : ∃ anc' : Nat → Nat, (∀ k, k ≤ g.h → anc' k = g.anc k) ∧ anc' (g.h + 1) = key M :=
      ⟨fun k => if k = g.h + 1 then key M else g.anc k, fun k hk => if_neg (Nat.ne_of_lt (Nat.lt_succ_of_le hk)), if_pos rfl⟩
    refine ⟨⟨a.w, a.idx, b.w, b.idx, g.h + 1, anc'⟩, {
      ia_lt := hai
      ib_lt := hwf.idx_lt b hb
      ka_lt := m.lt
      above := above'
      tp := ⟨M, (m.mem_iff_after _).2 (Or.inl rfl), mem_mergeTrees.2 ⟨_, hPab, rfl⟩, ?deepest, fun _ => anc_new.symm,
        fun h0 => absurd h0 (Nat.succ_ne_zero _), ?others⟩
      anc_mono := ?mono
      anc_le := ?le
      created := created' }⟩
    case deepest =>
      intro p hp
      obtain ⟨q, hq, e⟩ := mem_mergeTrees.1 hp
      rw [e]
      exact Nat.succ_le_succ (hq.elim (deep a ha q) (deep b hb q))
    case others =>
      refine m.forall_after (fun hne => absurd rfl hne) (fun t ht hne p hp hp1 => ?_)
      have := hPo t (hrest t ht) (fun e => eTP (e ▸ ht)) p hp hp1
      exact ⟨Nat.le_succ_of_le this.1, show anc' p.2 < key t from (anc_old _ this.1).symm ▸ this.2⟩
    case mono =>
      intro j k hj hjk (hk : k ≤ g.h + 1)
      have hjh : j ≤ g.h := Nat.le_of_lt_succ (Nat.lt_of_lt_of_le hjk hk)
      show anc' j < anc' k
      rw [anc_old j hjh]
      rcases Nat.lt_or_eq_of_le hk with hlt | e
      · rw [anc_old k (Nat.le_of_lt_succ hlt)]; exact h.anc_mono j k hj hjk (Nat.le_of_lt_succ hlt)
      · rw [e, anc_new]; exact anc_lt j hj hjh
    case le =>
      intro k hk1 (hk : k ≤ g.h + 1)
      show anc' k ≤ key M
      rcases Nat.lt_or_eq_of_le hk with hlt | e
      · rw [anc_old k (Nat.le_of_lt_succ hlt)]; exact Nat.le_of_lt (anc_lt k hk1 (Nat.le_of_lt_succ hlt))
      · rw [e, anc_new]; exact Nat.le_refl _

theorem initForest_eq : ∀ (ws : List Nat) (k : Nat),
    initForest ws k = (List.range ws.length).map (fun i => ⟨ws.getD i 0, k + i, [(k + i, 0)]⟩) := by
  intro ws
  induction ws with
  | nil => intro k; rfl
  | cons w ws ih =>
    intro k
    rw [initForest, ih (k + 1), List.length_cons, List.range_succ_eq_map, List.map_cons, List.map_map]
    congr 1
    apply List.map_congr_left
    intro i _
    simp only [Function.comp, List.getD_cons_succ, show k + 1 + i = k + (i + 1) by omega]

theorem forall_initForest {ws : List Nat} {Q : Tree → Prop} :
    (∀ t ∈ initForest ws 0, Q t) ↔ ∀ i, i < ws.length → Q ⟨ws.getD i 0, i, [(i, 0)]⟩ := by
  rw [initForest_eq, List.forall_mem_map]
  simp only [List.mem_range, Nat.zero_add]

theorem initForest_length (ws : List Nat) (k : Nat) : (initForest ws k).length = ws.length := by
  rw [initForest_eq, List.length_map, List.length_range]

theorem initForest_snoc (w : Nat) : ∀ (l : List Nat) (k : Nat),
    initForest (l ++ [w]) k = initForest l k ++ [⟨w, k + l.length, [(k + l.length, 0)]⟩]
  | [], _ => rfl
  | _ :: l, k => by
    rw [List.cons_append, initForest, initForest_snoc w l (k + 1), Nat.add_right_comm]
    rfl

theorem initForest_inv {ws : List Nat} {n W : Nat} (hn : ws.length = n) (hW : ws.sum = W) (hlen : n ≤ 257)
    (hpos : ∀ w ∈ ws, 1 ≤ w) (hsum : W ≤ FREQ_LIMIT) : Inv n W (initForest ws 0) := by
  subst hn hW
  exact {
    wf := {
      sorted := by
        rw [initForest_eq, List.pairwise_map]
        exact List.pairwise_lt_range.imp (fun h => Nat.add_lt_add_left h 0)
      idx_lt := forall_initForest.2 fun i hi => show i < 512 by omega
      w_pos := forall_initForest.2 fun i hi => hpos _ (LL.getD_mem hi 0)
      w_le := forall_initForest.2 fun i hi => Nat.le_trans (LL.le_sum_of_mem ws _ (LL.getD_mem hi 0)) hsum }
    wsum_eq := by
      rw [wsum, initForest_eq, List.map_map]
      exact congrArg List.sum (LL.map_getD_range ws 0)
    slots_perm := by
      rw [slots, initForest_eq, List.flatMap_map]
      simp only [Function.comp_def, Nat.zero_add, ← List.map_eq_flatMap, List.map_map, List.map_id']
      exact List.Perm.refl _
    kraft := forall_initForest.2 fun i hi => by
      rw [kr, List.map_singleton, List.sum_singleton, Nat.sub_zero]
    depth := forall_initForest.2 fun i hi p hp => by
      rw [List.mem_singleton.1 hp, initForest_length]
      exact Nat.le_of_eq (Nat.zero_add _) }

theorem initForest_pinv (init : List Nat) (hwf : WF (initForest (init ++ [1]) 0)) :
    ∃ g, PInv init.length (initForest (init ++ [1]) 0) g := by
  have leaf : ∀ t ∈ initForest (init ++ [1]) 0, ∀ p ∈ t.mem, ¬ 1 ≤ p.2 :=
    forall_initForest.2 fun i _ p hp => by rw [List.mem_singleton.1 hp]; exact Nat.not_succ_le_zero 0
  -- the pseudo-symbol's tree is the last of the forest
  rw [initForest_snoc, Nat.zero_add] at hwf leaf ⊢
  -- The ghost state before the first merge: a fictitious last pair of weight 0 in slots 511 and 510, so that
  -- `ka = 0 < kb = 1` lie below the key of every tree (at least 512, as weights are positive) and `klast = 0`.
  refine ⟨⟨0, 511, 0, 510, 0, fun _ => 0⟩, {
    ia_lt := by decide
    ib_lt := by decide
    ka_lt := by decide
    -- `kb` unfolds to `key ⟨0, 510, []⟩`
    above := fun t ht => key_lt_of_w_lt (a := ⟨0, 510, []⟩) (hwf.w_pos t ht)
    tp := ⟨_, List.mem_concat_self, List.mem_singleton_self _,
      fun p hp => Nat.le_of_not_lt (leaf _ List.mem_concat_self p hp), fun h0 => absurd h0 (by decide),
      fun _ t ht hne => ?_, fun t ht _ p hp hp1 => absurd hp1 (leaf t ht p hp)⟩
    anc_mono := fun j k _ hjk (hk : k ≤ 0) => absurd (Nat.lt_of_lt_of_le hjk hk) (Nat.not_lt_zero j)
    anc_le := fun k hk1 (hk : k ≤ 0) => absurd (Nat.le_trans hk1 hk) (by decide)
    created := fun t ht ⟨p, hp, hp1⟩ => absurd hp1 (leaf t ht p hp) }⟩
  -- no weight is below 1, and the last slot goes first among equal weights
  have htF := (List.mem_append.1 ht).resolve_right fun h => hne (List.mem_singleton.1 h)
  exact key_lt_of_idx_lt (hwf.w_pos t ht)
    ((List.pairwise_append.1 hwf.sorted).2.2 t htF _ (List.mem_singleton_self _)) (hwf.idx_lt _ List.mem_concat_self)

/-- **The merge loop.**  For at most 256 non-zero frequencies followed by the pseudo-symbol's 1, whose sum does
not exceed 10^9, the loop ends with one tree that holds every slot once, satisfies the Kraft equality, and has
the pseudo-symbol (the last slot) on its deepest level. -/
theorem merge_result (init : List Nat) {n : Nat} (hn : init.length = n) (hlen : n ≤ 256) (hpos : ∀ w ∈ init, 1 ≤ w)
    (hsum : init.sum < FREQ_LIMIT) :
    ∃ T d, mergeAll 300 (initForest (init ++ [1]) 0) = [T] ∧ (T.mem.map (·.1)).Perm (List.range (n + 1)) ∧
      kr T.mem = 2 ^ 300 ∧ (n, d) ∈ T.mem ∧ ∀ p ∈ T.mem, p.2 ≤ d := by
  subst hn
  have hl : (initForest (init ++ [1]) 0).length = init.length + 1 := (initForest_length _ 0).trans List.length_append
  have hlen' : init.length + 1 ≤ 257 := Nat.succ_le_succ hlen
  have h0 := initForest_inv List.length_append List.sum_append hlen' (LL.forall_mem_snoc hpos (Nat.le_refl 1)) hsum
  obtain ⟨T, e, hi, g', hp⟩ := mergeAll_induct
    (fun ts => Inv (init.length + 1) (init.sum + 1) ts ∧ ∃ g, PInv init.length ts g) (fun _ h => h.1.wf)
    (fun _ _ _ _ _ h m => ⟨h.1.step hlen' hsum m, h.2.elim fun _ hp => hp.step h.1.wf m⟩)
    300 (initForest (init ++ [1]) 0) ⟨h0, initForest_pinv init h0.wf⟩
    (hl ▸ Nat.succ_pos _) (hl ▸ Nat.succ_le_succ (Nat.le_trans hlen (by decide)))
  obtain ⟨TP, hTP, hPm, hPd, _, _, _⟩ := hp.tp
  obtain rfl := List.mem_singleton.1 hTP
  exact ⟨TP, g'.h, e, by simpa [slots] using hi.slots_perm, hi.kraft TP hTP, hPm, hPd⟩

end LJT.Huff
