import LJT.Model.Suspend
/-! The suspension protocol: a chunked execution of a stable unit of work is an execution on the input delivered at
once, so its result does not depend on the chunking; a unit of work that runs a decoder of a prefix of its input
(`Extends`) is stable. -/
namespace LJT.Suspend

theorem drop_refill (b rf : List Nat) (k : Nat) :
    (b.drop k ++ rf).drop (k - b.length) = (b ++ rf).drop k := by
  by_cases hk : k ≤ b.length
  · rw [Nat.sub_eq_zero_of_le hk, List.drop_zero, List.drop_append_of_le_length hk]
  · have hb : b.drop k = [] := List.drop_of_length_le (Nat.le_of_not_le hk)
    rw [hb, List.nil_append, List.drop_append, hb, List.nil_append]

section Generic
variable {σ α : Type} (step : Step σ α)

theorem chunks_to_whole (hst : Stable step) : ∀ s buf cs sf lf, ChunkRun step s buf cs sf lf →
    ChunkRun step s (buf ++ cs.flatten) [] sf lf := by
  intro s buf cs sf lf h
  induction h with
  | done s buf hn => simpa using ChunkRun.done s buf hn
  | adv s buf cs s' n sf lf hs _ ih =>
    obtain ⟨hle, hext⟩ := hst s buf s' n cs.flatten hs
    apply ChunkRun.adv _ _ _ s' n _ _ hext
    rw [List.drop_append_of_le_length hle]
    exact ih
  | more s buf c cs sf lf _ _ ih =>
    simpa [List.append_assoc] using ih

theorem whole_deterministic : ∀ s d a b, ChunkRun step s d [] a b → ∀ a' b', ChunkRun step s d [] a' b' → a = a' ∧ b = b' := by
  intro s d a b h
  generalize hcs : ([] : List (List α)) = cs at h
  induction h with
  | done s buf hn =>
    intro a' b' h'
    cases h' with
    | done _ _ _ => exact ⟨rfl, rfl⟩
    | adv _ _ _ s' n _ _ hs _ => rw [hn] at hs; cases hs
  | adv s buf cs s' n sf lf hs _ ih =>
    intro a' b' h'
    subst hcs
    cases h' with
    | done _ _ hn => rw [hn] at hs; cases hs
    | adv _ _ _ s2 n2 _ _ hs2 hrest =>
      rw [hs] at hs2; cases hs2
      exact ih rfl a' b' hrest
  | more s buf c cs sf lf _ _ _ => cases hcs

/-- **Two deliveries of the same bytes end in the same state** with the same unread rest -/
theorem chunking_independent (hst : Stable step) (s : σ) (cs1 cs2 : List (List α)) (h : cs1.flatten = cs2.flatten)
    (a1 a2 : σ) (b1 b2 : List α) (h1 : ChunkRun step s [] cs1 a1 b1) (h2 : ChunkRun step s [] cs2 a2 b2) :
    a1 = a2 ∧ b1 = b2 := by
  have w1 := chunks_to_whole step hst _ _ _ _ _ h1
  have w2 := chunks_to_whole step hst _ _ _ _ _ h2
  rw [List.nil_append] at w1 w2
  rw [h] at w1
  exact whole_deterministic step _ _ _ _ w1 _ _ w2

end Generic

/-- a decoder of a prefix of its input: once it succeeds, input appended behind is left unread and changes nothing -/
def Extends {α β : Type} (dec : List β → Option (α × List β)) : Prop :=
  ∀ bs e v rest, dec bs = some (v, rest) → dec (bs ++ e) = some (v, rest ++ e)

/-- a unit of work that runs such a decoder and reports how much it consumed obeys the suspension contract -/
theorem stable_of_extends {σ α β : Type} (step : Step σ β) (dec : σ → List β → Option (α × List β)) (upd : σ → α → σ)
    (hstep : ∀ s bs, step s bs = (dec s bs).map fun r => (upd s r.1, bs.length - r.2.length))
    (hdec : ∀ s, Extends (dec s)) : Stable step := by
  intro s d s' n e h
  rw [hstep] at h ⊢
  obtain ⟨r, hd, hr⟩ := Option.map_eq_some_iff.1 h
  cases hr
  rw [hdec s d e r.1 r.2 hd]
  simp only [Option.map_some, List.length_append, Nat.add_sub_add_right, and_true]
  exact Nat.sub_le _ _

/-- the marker-segment reader wants its four header bytes and the payload their length field announces; bytes behind
them do not change that test -/
theorem segStep_stable : Stable segStep := by
  intro s d s' n e h
  revert h
  fun_cases segStep s d with
  | case1 _ m hi lo rest len hc =>
    intro h
    cases h
    refine ⟨?_, ?_⟩
    · simp only [List.length_cons]
      omega
    · simp only [List.cons_append, segStep]
      rw [if_pos ⟨hc.1, by rw [List.length_append]; exact Nat.le_trans hc.2 (Nat.le_add_right _ _)⟩]
  | case2 => nofun
  | case3 => nofun

end LJT.Suspend
