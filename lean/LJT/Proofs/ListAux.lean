/-! General facts about lists, for every proof file (no import).  `All2`, two lists related element by element, with
the few lemmas through which it is used; entries by index (`getD_mem`, `getD_map`, `getD_map_range`); a list as the
list of its entries (`map_getD_range`, `map_range_eq`); indexing into a concatenation of lists of one length
(`getD_flatten_uniform`); `rep_snoc`, `forall_mem_snoc`, `flatten_map_flatMap`; sums (`le_sum_of_mem`, `sum_map_one`).
The namespace is `LJT.LL` because the statements of C02 cite `All2`, `all2_length` and `map_getD_range` under that name. -/
namespace LJT.LL

inductive All2 {α β : Type} (R : α → β → Prop) : List α → List β → Prop
  | nil : All2 R [] []
  | cons {a b l1 l2} : R a b → All2 R l1 l2 → All2 R (a :: l1) (b :: l2)

theorem all2_length {α β : Type} {R : α → β → Prop} {a : List α} {b : List β} (h : All2 R a b) :
    a.length = b.length := by
  induction h with
  | nil => rfl
  | cons _ _ ih => simp [ih]

theorem all2_map_self {α : Type} {R : α → α → Prop} {f : α → α} (h : ∀ x, R (f x) x) :
    ∀ l : List α, All2 R (l.map f) l
  | [] => All2.nil
  | x :: l => All2.cons (h x) (all2_map_self h l)

theorem mapM_map_all2 {α β γ : Type} (g : α → β) (f : β → Option γ) : ∀ (l : List α) (r : List γ),
    (l.map g).mapM f = some r → All2 (fun a c => f (g a) = some c) l r
  | [], r, h => by cases h; exact All2.nil
  | a :: as, r, h => by
    rw [List.map_cons, List.mapM_cons] at h
    obtain ⟨b, hb, h⟩ := Option.bind_eq_some_iff.1 h
    obtain ⟨bs, hbs, h⟩ := Option.bind_eq_some_iff.1 h
    cases h
    exact All2.cons hb (mapM_map_all2 g f as bs hbs)

theorem rep_snoc {α : Type} (q : Nat) (z : α) (t : List α) : List.replicate (q + 1) z ++ t = List.replicate q z ++ z :: t := by
  rw [List.replicate_succ', List.append_assoc]; rfl

theorem getD_map {α β : Type} (f : α → β) (l : List α) (i : Nat) (d : α) (e : β) (h : f d = e) :
    (l.map f).getD i e = f (l.getD i d) := by
  subst h
  rw [List.getD_eq_getElem?_getD, List.getElem?_map, Option.getD_map, List.getD_eq_getElem?_getD]

theorem getD_map_range {α : Type} (f : Nat → α) {n x : Nat} (h : x < n) (d : α) : ((List.range n).map f).getD x d = f x := by
  simp [List.getD_eq_getElem?_getD, h]

theorem getD_mem {α : Type} {l : List α} {i : Nat} (h : i < l.length) (d : α) : l.getD i d ∈ l := by
  rw [List.getD_eq_getElem?_getD, List.getElem?_eq_getElem h]
  exact List.getElem_mem h

theorem forall_mem_snoc {α : Type} {P : α → Prop} {l : List α} {a : α} (hl : ∀ x ∈ l, P x) (ha : P a) :
    ∀ x ∈ l ++ [a], P x :=
  List.forall_mem_append.2 ⟨hl, List.forall_mem_singleton.2 ha⟩

theorem sum_map_one (l : List Nat) : (l.map (fun _ => 1)).sum = l.length := by
  rw [List.map_const', List.sum_replicate_nat, Nat.mul_one]

theorem le_sum_of_mem : ∀ (l : List Nat) (a : Nat), a ∈ l → a ≤ l.sum
  | x :: xs, a, h => by
    rcases List.mem_cons.1 h with rfl | h
    · exact Nat.le_add_right _ _
    · exact Nat.le_trans (le_sum_of_mem xs a h) (Nat.le_add_left _ _)

theorem map_getD_range {α : Type} (l : List α) (d : α) : (List.range l.length).map (fun i => l.getD i d) = l := by
  apply List.ext_getElem
  · simp
  · intro i h1 h2
    simp [List.getD_eq_getElem?_getD, List.getElem?_eq_getElem h2]

theorem map_range_eq {α : Type} (l : List α) (d : α) {n : Nat} (hl : l.length = n) (f : Nat → α)
    (h : ∀ k, k < n → f k = l.getD k d) : (List.range n).map f = l := by
  subst hl
  exact (List.map_congr_left fun k hk => h k (List.mem_range.1 hk)).trans (map_getD_range l d)

theorem getD_flatten_uniform {α : Type} (k : Nat) (d : α) : ∀ (l : List (List α)), (∀ r ∈ l, r.length = k) →
    ∀ i j, j < k → l.flatten.getD (i * k + j) d = (l.getD i []).getD j d := by
  intro l
  induction l with
  | nil => intro _ i j _; simp
  | cons r rs ih =>
    intro h i j hj
    obtain ⟨hr, h⟩ := List.forall_mem_cons.1 h
    subst hr
    cases i with
    | zero =>
      rw [List.flatten_cons, Nat.zero_mul, Nat.zero_add, List.getD_cons_zero, List.getD_eq_getElem?_getD,
        List.getD_eq_getElem?_getD, List.getElem?_append_left hj]
    | succ i =>
      rw [List.flatten_cons, List.getD_cons_succ, ← ih h i j hj, List.getD_eq_getElem?_getD, List.getD_eq_getElem?_getD,
        Nat.succ_mul, Nat.add_right_comm, List.getElem?_append_right (Nat.le_add_left _ _), Nat.add_sub_cancel]

theorem flatten_map_flatMap {α β : Type} (g : α → List β) (ch : List (List α)) :
    (ch.map (fun r => r.flatMap g)).flatten = ch.flatten.flatMap g := by
  simp only [List.flatMap_def, List.map_flatten, List.flatten_flatten, List.map_map, Function.comp_def]

/-- loop rule for `for (k = 0; k < n; k++)` -/
theorem foldl_range_induct {β : Type} (P : Nat → β → Prop) (f : β → Nat → β) (b : β) (n : Nat) (h0 : P 0 b)
    (hs : ∀ k x, k < n → P k x → P (k + 1) (f x k)) : P n ((List.range n).foldl f b) := by
  induction n with
  | zero => exact h0
  | succ n ih =>
    rw [List.range_succ, List.foldl_append]
    exact hs n _ (Nat.lt_succ_self n) (ih fun k x hk => hs k x (Nat.lt_succ_of_lt hk))

end LJT.LL
