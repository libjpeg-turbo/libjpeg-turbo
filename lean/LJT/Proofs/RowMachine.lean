import LJT.Model.SkipSM
/-!
What the three read / skip machines (Model/SkipSM.lean, MergedSM.lean, CtxSM.lean) have in common: positions
`(iMCU row, row group, row)` and their scanlines (`PosAt`), what a read owes its caller (`ReadOK`), the frame around every read
and every skip, and what follows for any history of any of them (`Runs.rows`, `Runs.one_by_one`, `RowOK.agree`).
Names in the machine files follow the models: no letter for the simple machine, `m` / `M` for the merged, `c` / `C` for the
context-row one.
-/
namespace LJT.Skip

/-- position `(a, g, r)` = iMCU row, row group, row within the group -/
def lineOf (c : Cfg) (a g r : Nat) : Nat := a * (c.M * c.v) + g * c.v + r

variable (c : Cfg)

theorem lineOf_zero : lineOf c 0 0 0 = 0 := by
  simp [lineOf]

theorem lineOf_eq (a g r : Nat) : lineOf c a g r = lineOf c a 0 0 + (g * c.v + r) := by
  simp only [lineOf, Nat.zero_mul, Nat.add_zero, Nat.add_assoc]

theorem lineOf_add (a q : Nat) : lineOf c (a + q) 0 0 = lineOf c a 0 0 + q * (c.M * c.v) := by
  simp only [lineOf, Nat.add_mul, Nat.zero_mul, Nat.add_zero]

theorem lineOf_next_group (a g r k : Nat) (h : r + k = c.v) : lineOf c a (g + 1) 0 = lineOf c a g r + k := by
  simp only [lineOf, Nat.succ_mul, Nat.add_zero, Nat.add_assoc, h]

/-- a row of an iMCU row lies less than its `M * v` rows into it -/
theorem offset_lt {g r M v : Nat} (hg : g < M) (hr : r < v) : g * v + r < M * v := by
  have : (g + 1) * v ≤ M * v := Nat.mul_le_mul_right v hg
  rw [Nat.succ_mul] at this
  omega

theorem digits_unique {v g r g' r' : Nat} (hr : r < v) (hr' : r' < v) (h : g * v + r = g' * v + r') : g = g' ∧ r = r' := by
  have hv : 0 < v := Nat.lt_of_le_of_lt (Nat.zero_le r) hr
  obtain ⟨d1, m1⟩ := (Nat.div_mod_unique hv).2 ⟨show r + v * g = g * v + r by rw [Nat.mul_comm, Nat.add_comm], hr⟩
  obtain ⟨d2, m2⟩ := (Nat.div_mod_unique hv).2 ⟨show r' + v * g' = g * v + r by rw [h, Nat.mul_comm, Nat.add_comm], hr'⟩
  exact ⟨d1.symm.trans d2, m1.symm.trans m2⟩

/-- scanline `y` is position `(a, g, r)` -/
def PosAt (y a g r : Nat) : Prop := g < c.M ∧ r < c.v ∧ y = lineOf c a g r

/-- the rows left in the current iMCU row at row group `g`, row `r`, as `_jpeg_skip_scanlines` counts them: none on an
iMCU row boundary -/
def leftOf (g r : Nat) : Nat := if g = 0 ∧ r = 0 then 0 else c.M * c.v - (g * c.v + r)

section
variable {c} {y a g r : Nat} (h : PosAt c y a g r)
include h

theorem PosAt.unique {a' g' r' : Nat} (h' : PosAt c y a' g' r') : a = a' ∧ g = g' ∧ r = r' := by
  have e := h.2.2.symm.trans h'.2.2
  rw [lineOf, lineOf, Nat.add_assoc, Nat.add_assoc] at e
  obtain ⟨ha, hx⟩ := digits_unique (offset_lt h.1 h.2.1) (offset_lt h'.1 h'.2.1) e
  exact ⟨ha, digits_unique h.2.1 h'.2.1 hx⟩

theorem PosAt.add_r {k : Nat} (hk : r + k < c.v) : PosAt c (y + k) a g (r + k) :=
  ⟨h.1, hk, by rw [h.2.2]; exact Nat.add_assoc _ _ _⟩

theorem PosAt.next_group {k : Nat} (hk : r + k = c.v) (hg : g + 1 < c.M) : PosAt c (y + k) a (g + 1) 0 :=
  ⟨hg, Nat.lt_of_le_of_lt (Nat.zero_le r) h.2.1, by rw [h.2.2, lineOf_next_group c a g r k hk]⟩

theorem PosAt.next_imcu {k : Nat} (hk : r + k = c.v) (hg : g + 1 = c.M) : PosAt c (y + k) (a + 1) 0 0 :=
  ⟨hg ▸ Nat.succ_pos g, Nat.lt_of_le_of_lt (Nat.zero_le r) h.2.1,
    by rw [h.2.2, lineOf, lineOf, Nat.succ_mul, ← hg, Nat.succ_mul g]; omega⟩

/-- `(L - output_scanline % L) % L` of `_jpeg_skip_scanlines` -/
theorem PosAt.left : (c.M * c.v - y % (c.M * c.v)) % (c.M * c.v) = leftOf c g r := by
  have hx := offset_lt h.1 h.2.1
  have hg := Nat.le_mul_of_pos_right g (Nat.lt_of_le_of_lt (Nat.zero_le r) h.2.1)
  rw [h.2.2, lineOf, Nat.add_assoc, Nat.add_comm, Nat.add_mul_mod_self_right, Nat.mod_eq_of_lt hx, leftOf]
  split
  · next h0 => rw [h0.1, h0.2, Nat.zero_mul, Nat.sub_zero, Nat.mod_self]
  · exact Nat.mod_eq_of_lt (by omega)

theorem PosAt.left_le : g * c.v + r + leftOf c g r ≤ c.M * c.v := by
  have := offset_lt h.1 h.2.1
  rw [leftOf]
  split
  · omega
  · omega

/-- `leftOf` rows on starts iMCU row `a + 1`, unless the position is the first row of iMCU row `a` -/
theorem PosAt.boundary (h0 : 0 < g ∨ 0 < r) : lineOf c (a + 1) 0 0 = y + leftOf c g r := by
  have := offset_lt h.1 h.2.1
  rw [h.2.2, lineOf_eq c a g r, leftOf, if_neg (by omega), lineOf_add, Nat.one_mul]
  omega

end

theorem PosAt.boundary_here {c : Cfg} {y a : Nat} (h : PosAt c y a 0 0) : lineOf c a 0 0 = y + leftOf c 0 0 :=
  h.2.2.symm

theorem PosAt.add_g {c : Cfg} {y a g q : Nat} (h : PosAt c y a g 0) (hq : g + q < c.M) : PosAt c (y + q * c.v) a (g + q) 0 :=
  ⟨hq, h.2.1, by rw [h.2.2, lineOf, lineOf, Nat.add_mul]; omega⟩

/-- what `sep_upsample` takes of a row group with `r` rows gone and room for `room`, at scanline `y` with `rows_to_go`
`d` rows behind (inside a skip; then no more than the rows left are asked for): the rows exist, and `rows_to_go` stays
`d` behind -/
theorem take_lag {v r rtg H y d room k : Nat} (hk : min (min (v - r) rtg) room = k) (hr : r < v) (h : rtg = H - y + d)
    (hy : y < H) (hroom : 1 ≤ room) (hd : d = 0 ∨ room ≤ H - y) :
    1 ≤ k ∧ k ≤ room ∧ r + k ≤ v ∧ y + k ≤ H ∧ rtg - k = H - (y + k) + d := by
  obtain ⟨a12, a3⟩ := Nat.le_min.1 (Nat.le_of_eq hk.symm)
  obtain ⟨a1, a2⟩ := Nat.le_min.1 a12
  have a0 : 1 ≤ k :=
    hk ▸ Nat.le_min.2 ⟨Nat.le_min.2 ⟨Nat.sub_pos_of_lt hr, h ▸ Nat.le_trans (Nat.sub_pos_of_lt hy) (Nat.le_add_right _ _)⟩, hroom⟩
  have a4 : k ≤ H - y := by
    rcases hd with h0 | h0
    · rw [h, h0] at a2; exact a2
    · exact Nat.le_trans a3 h0
  exact ⟨a0, a3, Nat.add_comm r k ▸ Nat.add_le_of_le_sub (Nat.le_of_lt hr) a1,
    Nat.add_comm y k ▸ Nat.add_le_of_le_sub (Nat.le_of_lt hy) a4, by rw [h, Nat.sub_add_comm a4, Nat.sub_sub]⟩

/-- the frame `_jpeg_skip_scanlines` has in the three models: a request that would pass the bottom stops there (state
`past`), an empty one does nothing, and any other is left to `body`, which has to honour it in full -/
theorem skip_frame {σ : Type} (y : σ → Nat) (I : σ → Prop) {H n : Nat} {s past : σ} {body : σ × Nat}
    (hs : I s) (hy : y s ≤ H) (hpast : I past ∧ y past = H)
    (r : σ × Nat) (hr : r = if H ≤ y s + n then (past, H - y s) else if n = 0 then (s, 0) else body)
    (hbody : y s + n < H → y s < H → 0 < n → I body.1 ∧ body.2 = n ∧ y body.1 = y s + n) :
    I r.1 ∧ r.2 = min n (H - y s) ∧ y r.1 = y s + min n (H - y s) := by
  subst hr
  by_cases h1 : H ≤ y s + n
  · rw [if_pos h1, Nat.min_eq_right (Nat.sub_le_iff_le_add'.2 h1)]
    exact ⟨hpast.1, rfl, hpast.2.trans (Nat.add_sub_cancel' hy).symm⟩
  · by_cases h2 : n = 0
    · subst h2
      rw [if_neg h1, if_pos rfl, Nat.zero_min]
      exact ⟨hs, rfl, rfl⟩
    · have hlt := Nat.lt_of_not_le h1
      rw [if_neg h1, if_neg h2, Nat.min_eq_left (Nat.le_sub_of_add_le' (Nat.le_of_lt hlt))]
      exact hbody hlt (Nat.lt_of_le_of_lt (Nat.le_add_right _ _) hlt) (Nat.pos_of_ne_zero h2)

/-- the rows of a request for `n` that lie beyond its first `l` -/
theorem rest_add {y l n : Nat} (h : l ≤ n) : y + l + (n - l) = y + n := by
  rw [Nat.add_assoc, Nat.add_sub_cancel' h]

/-- a skip to scanline `e`, inside the image, has come to the iMCU row boundary at scanline `b` with `x` rows still to go: as
many whole iMCU rows of `L` rows as fit into `p ≤ x` rows are stepped over, `q` of them, and the rest is read -/
theorem whole_rows (L : Nat) {b x p e H : Nat} (hp : p ≤ x) (hbx : b + x = e) (hH : e < H) :
    ∃ q, p / L = q ∧ b + q * L ≤ H ∧ b + q * L + (x - q * L) < H ∧ b + q * L + (x - q * L) = e ∧
      H - b = H - (b + q * L) + q * L := by
  subst hbx
  have := Nat.div_mul_le_self p L
  exact ⟨_, rfl, by omega⟩

theorem div_rest (x : Nat) {L : Nat} (hL : 0 < L) : x / L * L ≤ x ∧ x - x / L * L < L :=
  ⟨Nat.div_mul_le_self x L, Nat.mod_eq_sub_div_mul ▸ Nat.mod_lt x hL⟩

/-- what is claimed of a delivered row: it is the row of the image that its scanline number names -/
def RowOK (ip : Nat × Prov) : Prop :=
  PosAt c ip.1 ip.2.1 ip.2.2.1 ip.2.2.2 ∧ ip.1 < c.H

theorem RowOK.spec {c : Cfg} {ip : Nat × Prov} (h : RowOK c ip) :
    ip.2.2.1 < c.M ∧ ip.2.2.2 < c.v ∧ Prov.line c ip.2 = ip.1 ∧ ip.1 < c.H :=
  ⟨h.1.1, h.1.2.1, h.1.2.2.symm, h.2⟩

/-- rows delivered from scanline `y` on are the rows their scanlines name -/
def RowsOK (y : Nat) (rows : List Prov) : Prop :=
  ∀ p i, (p, i) ∈ rows.zipIdx y → PosAt c i p.1 p.2.1 p.2.2

/-- rows `r .. r + k - 1` of row group `(a, g)` -/
def groupRows (a g r k : Nat) : List Prov := (List.range k).map fun j => (a, g, r + j)

theorem groupRows_length (a g r k : Nat) : (groupRows a g r k).length = k := by
  rw [groupRows, List.length_map, List.length_range]

theorem rowsOK_range {c : Cfg} {y a g r k : Nat} (hp : PosAt c y a g r) (hk : r + k ≤ c.v) : RowsOK c y (groupRows a g r k) := by
  intro p i h
  obtain ⟨h1, h2, e⟩ := List.mem_zipIdx h
  rw [groupRows_length] at h2
  simp only [e, groupRows, List.getElem_map, List.getElem_range]
  have := hp.add_r (k := i - y) (by omega)
  rwa [Nat.add_sub_cancel' h1] at this

theorem rowsOK_append (y : Nat) (r1 r2 : List Prov) (h1 : RowsOK c y r1) (h2 : RowsOK c (y + r1.length) r2) :
    RowsOK c y (r1 ++ r2) := by
  intro p i h
  rw [List.zipIdx_append, List.mem_append] at h
  exact h.elim (h1 p i) (h2 p i)

/-- what one `jpeg_read_scanlines(n)` call at scanline `y` may do: deliver at most `n` of the rows from `y` on, at least
one if one is wanted and left, and move `output_scanline` to `y'` behind them -/
def ReadOK (y n : Nat) (rows : List Prov) (y' : Nat) : Prop :=
  y' = y + rows.length ∧ y' ≤ c.H ∧ rows.length ≤ n ∧ (y < c.H → 1 ≤ n → 1 ≤ rows.length) ∧ RowsOK c y rows

theorem ReadOK.none (y n : Nat) (hy : y ≤ c.H) (h : c.H ≤ y ∨ n = 0) : ReadOK c y n [] y :=
  ⟨rfl, hy, Nat.zero_le _, fun h1 h2 => by simp only [List.length_nil]; omega, fun _ _ h => nomatch h⟩

theorem ReadOK.one {c : Cfg} {y y' : Nat} {rows : List Prov} (h : ReadOK c y 1 rows y') (hy : y < c.H) : y' = y + 1 := by
  obtain ⟨e, _, l1, l2, _⟩ := h
  have := l2 hy (Nat.le_refl 1)
  omega

/-- the frame `_jpeg_read_scanlines` has in the three models: past the bottom, or asked for nothing, it does nothing; what is
left to show of a read is the call for `n ≥ 1` rows inside the image -/
theorem ReadOK.frame {σ : Type} (y : σ → Nat) (I : σ → Prop) {n : Nat} {s : σ} {body : σ × List Prov} (hs : I s) (hy : y s ≤ c.H)
    (r : σ × List Prov) (hr : r = if c.H ≤ y s then (s, []) else if n = 0 then (s, []) else body)
    (hbody : ¬ c.H ≤ y s → ¬ n = 0 → I r.1 ∧ ReadOK c (y s) n r.2 (y r.1)) :
    I r.1 ∧ ReadOK c (y s) n r.2 (y r.1) := by
  by_cases h1 : c.H ≤ y s
  · rw [hr, if_pos h1]
    exact ⟨hs, ReadOK.none c (y s) n hy (Or.inl h1)⟩
  · by_cases h2 : n = 0
    · rw [hr, if_neg h1, if_pos h2]
      exact ⟨hs, ReadOK.none c (y s) n hy (Or.inr h2)⟩
    · exact hbody h1 h2

section
variable {c} {y a g r k n : Nat} (hp : PosAt c y a g r) (k1 : 1 ≤ k) (k4 : r + k ≤ c.v)
include hp k1 k4

theorem ReadOK.range (k2 : k ≤ n) (hle : y + k ≤ c.H) :
    ReadOK c y n (groupRows a g r k) (y + k) := by
  rw [ReadOK, groupRows_length]
  exact ⟨rfl, hle, k2, fun _ _ => k1, rowsOK_range hp k4⟩

theorem ReadOK.range_append {rows : List Prov} {y' : Nat} (k2 : k < n) (h : ReadOK c (y + k) (n - k) rows y') :
    ReadOK c y n (groupRows a g r k ++ rows) y' := by
  obtain ⟨e, hH, l1, _, hrows⟩ := h
  rw [ReadOK, List.length_append, groupRows_length]
  exact ⟨by rw [e, Nat.add_assoc], hH, Nat.add_le_of_le_sub' (Nat.le_of_lt k2) l1,
    fun _ _ => Nat.le_trans k1 (Nat.le_add_right _ _),
    rowsOK_append c y _ _ (rowsOK_range hp k4) (by rw [groupRows_length]; exact hrows)⟩

end

/-- `step`, `run` and `read_and_discard_scanlines` are made from `read` and `skip` the way the three models make them -/
structure Runs {σ : Type} (y : σ → Nat) (read : σ → Nat → σ × List Prov) (skip : σ → Nat → σ × Nat)
    (step : σ → Call → σ × List (Nat × Prov) × Nat) (run : σ → List Call → σ × List (Nat × Prov))
    (discard : Nat → σ → σ) : Prop where
  rd : ∀ s n, step s (.rd n) = ((read s n).1, ((read s n).2.zipIdx (y s)).map (fun (p, i) => (i, p)), (read s n).2.length)
  sk : ∀ s n, step s (.sk n) = ((skip s n).1, [], (skip s n).2)
  nil : ∀ s, run s [] = (s, [])
  cons : ∀ s a as, run s (a :: as) = ((run (step s a).1 as).1, (step s a).2.1 ++ (run (step s a).1 as).2)
  discard_zero : ∀ s, discard 0 s = s
  discard_succ : ∀ k s, discard (k + 1) s = discard k (read s 1).1

theorem scanlines_zipIdx (rows : List Prov) (y : Nat) :
    ((rows.zipIdx y).map (fun (p, i) => (i, p))).map (·.1) = List.range' y rows.length := by
  rw [List.map_map]
  exact List.zipIdx_map_snd y rows

section
variable {σ : Type} {y : σ → Nat} {read : σ → Nat → σ × List Prov} {skip : σ → Nat → σ × Nat}
  {step : σ → Call → σ × List (Nat × Prov) × Nat} {run : σ → List Call → σ × List (Nat × Prov)} {discard : Nat → σ → σ}
  (m : Runs y read skip step run discard)
include m

/-- **Any machine whose `read` and `skip` keep an invariant and honour `ReadOK` delivers, over any history, only rows that
are where they belong.**  The invariant may speak of the calls still to come (the merged machine's needs that), `rest`
being those after the history. -/
theorem Runs.rows (I : σ → List Call → Prop)
    (hread : ∀ s n as, I s (.rd n :: as) → I (read s n).1 as ∧ ReadOK c (y s) n (read s n).2 (y (read s n).1))
    (hskip : ∀ s n as, I s (.sk n :: as) → I (skip s n).1 as) :
    ∀ calls rest s, I s (calls ++ rest) → I (run s calls).1 rest ∧ ∀ ip ∈ (run s calls).2, RowOK c ip := by
  intro calls rest
  induction calls with
  | nil => intro s h; rw [m.nil]; exact ⟨h, fun ip hip => nomatch hip⟩
  | cons a as ih =>
    intro s h
    rw [m.cons]
    have hst : I (step s a).1 (as ++ rest) ∧ ∀ ip ∈ (step s a).2.1, RowOK c ip := by
      cases a with
      | rd n =>
        obtain ⟨h1, e, hH, _, _, hrows⟩ := hread s n _ h
        rw [m.rd]
        refine ⟨h1, fun ip hip => ?_⟩
        obtain ⟨⟨p, i⟩, hmem, rfl⟩ := List.mem_map.mp hip
        exact ⟨hrows p i hmem, Nat.lt_of_lt_of_le (List.mem_zipIdx hmem).2.1 (e ▸ hH)⟩
      | sk n =>
        rw [m.sk]
        exact ⟨hskip s n _ h, fun ip hip => nomatch hip⟩
    obtain ⟨i1, i2⟩ := ih (step s a).1 hst.1
    exact ⟨i1, fun ip hip => (List.mem_append.mp hip).elim (hst.2 ip) (i2 ip)⟩

/-- **Such a machine, asked for one row at a time, delivers every scanline once, in order** (and keeps its invariant:
`read_and_discard_scanlines` is such a history). -/
theorem Runs.one_by_one (I : σ → Prop)
    (hread : ∀ s, I s → y s < c.H → I (read s 1).1 ∧ ReadOK c (y s) 1 (read s 1).2 (y (read s 1).1)) :
    ∀ k s, I s → y s + k ≤ c.H →
      (run s (List.replicate k (.rd 1))).2.map (·.1) = List.range' (y s) k ∧
        I (run s (List.replicate k (.rd 1))).1 ∧ y (run s (List.replicate k (.rd 1))).1 = y s + k := by
  intro k
  induction k with
  | zero => intro s h _; rw [List.replicate_zero, m.nil]; exact ⟨rfl, h, rfl⟩
  | succ k ih =>
    intro s h hH
    have hy : y s < c.H := Nat.lt_of_lt_of_le (Nat.lt_add_of_pos_right (Nat.succ_pos k)) hH
    obtain ⟨h1, hok⟩ := hread s h hy
    have e := hok.one hy
    have hl : (read s 1).2.length = 1 := Nat.add_left_cancel (hok.1.symm.trans e)
    have ek : y s + 1 + k = y s + (k + 1) := by rw [Nat.add_assoc, Nat.add_comm 1 k]
    obtain ⟨i1, i2, i3⟩ := ih (read s 1).1 h1 (by rw [e, ek]; exact hH)
    rw [List.replicate_succ, m.cons, m.rd, List.map_append, scanlines_zipIdx, i1, i3, hl, e]
    exact ⟨by rw [List.range'_succ]; rfl, i2, ek⟩

theorem Runs.discard_run : ∀ (k : Nat) (s : σ), discard k s = (run s (List.replicate k (.rd 1))).1
  | 0, s => by rw [m.discard_zero, List.replicate_zero, m.nil]
  | k + 1, s => by rw [m.discard_succ, List.replicate_succ, m.cons, m.rd, Runs.discard_run k]

end

/-- two rows delivered at the same scanline, by whatever histories of whatever machines, are the same row -/
theorem RowOK.agree {c : Cfg} {i : Nat} {p p' : Prov} (h : RowOK c (i, p)) (h' : RowOK c (i, p')) : p = p' := by
  obtain ⟨e1, e2, e3⟩ := h.1.unique h'.1
  exact Prod.ext e1 (Prod.ext e2 e3)

end LJT.Skip
